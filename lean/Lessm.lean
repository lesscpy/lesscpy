import Lessm.Lemmas.Basic
import Lessm.Model.Color
import Lessm.Model.Cfg
import Lessm.Gen.Grammar
import Lessm.Gen.Lalr
import Lessm.Gen.Words
import Lessm.Gen.BigWords
import Lessm.Props.C08
import Lessm.Model.NumE
import Lessm.Props.C17
import Lessm.Props.C17Exp
import Lessm.Props.C06
import Lessm.Model.Sign
import Lessm.Props.C04
import Lessm.Props.C04Sign
import Lessm.Props.C09
import Lessm.Props.C02
import Lessm.Props.C03
import Lessm.Props.C07
import Lessm.Props.C19
import Lessm.Props.C18
import Lessm.Props.C05
import Lessm.Props.C11
import Lessm.Props.C12
import Lessm.Model.IdentFmt
import Lessm.Props.C01
import Lessm.Props.C01Fmt
import Lessm.Props.C15
import Lessm.Props.C10
import Lessm.Lemmas.BatchLemmas
import Lessm.Props.C16
import Lessm.Audit.C16
import Lessm.Model.Batch
import Lessm.Model.Term
import Lessm.Model.Import
import Lessm.Lemmas.TermLemmas
import Lessm.Props.C20
import Lessm.Audit.C20
import Lessm.Lemmas.TermMixinLemmas
import Lessm.Props.C20Mixin
import Lessm.Audit.C20Mixin
import Lessm.Model.Purity
import Lessm.Props.C13
import Lessm.Audit.C13
import Lessm.Lemmas.ImportLemmas
import Lessm.Props.C14
import Lessm.Audit.C14
import Lessm.Model.Regex
import Lessm.Model.Lex0
import Lessm.Gen.LexRules
import Lessm.Lemmas.Lex0Lemmas
import Lessm.Props.C12Lex
import Lessm.Audit.C12Lex
import Lessm.Lemmas.FrontLemmas
import Lessm.Props.C15Text
import Lessm.Audit.C15Text
import Lessm.Lemmas.CrossLemmas
import Lessm.Props.Cross
import Lessm.Props.CrossGuard
import Lessm.Lemmas.CrossAtLemmas
import Lessm.Props.CrossAt
import Lessm.Props.CrossPrint
import Lessm.Props.CrossStr
import Lessm.Audit.Cross
