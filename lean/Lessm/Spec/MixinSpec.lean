/-
  Declarative vocabulary for C05 (mixins).  Nothing here is executed by the differential test; these
  are the notions the theorems of Lessm/Props/C05.lean are stated with.

    `rulesOf`, `compileRule`, `compileRules`   the sheet as "table + list of top-level rules"
    `substValue` / `substArg` / `substItems`    textual replacement of the names bound in a frame
    `LitFrame` / `LitScope`                     every bound value is made of literal tokens only
    `ClosedBodies`                              bodies stored in the table look up nothing below their
                                                own frame
    `inlineItemsOK`                             side condition on the body being inlined
-/
import Lessm.Model.Mixin
namespace Lessm.Mixin
open Lessm.Vars Lessm.Sel

/-! ### the sheet as a table and a list of rules -/

/-- the top-level rules of a sheet, in order -/
def rulesOf : List Top → List (List Tok × List Item)
  | [] => []
  | .mdef _ _ :: r => rulesOf r
  | .rule sel body :: r => (sel, body) :: rulesOf r

def Top.isDef : Top → Bool
  | .mdef _ _ => true
  | .rule _ _ => false

def Top.isRule : Top → Bool
  | .mdef _ _ => false
  | .rule _ _ => true

/-- what one top-level rule contributes to the output, the table being given -/
def compileRule (tbl : Table) (gas : Nat) (sel : List Tok) (body : List Item) :
    Except Err (List OutRule) := do
  let me := identParse none sel
  let (ds, out) ← evalItems tbl gas 0 false [[], []] me body
  let own : List OutRule := if ds.isEmpty then [] else [⟨me, ds⟩]
  pure (own ++ out)

/-- the rules one after the other (the first error wins) -/
def compileRules (tbl : Table) (gas : Nat) : List (List Tok × List Item) → Except Err (List OutRule)
  | [] => .ok []
  | (sel, body) :: r => do
      let a ← compileRule tbl gas sel body
      let rest ← compileRules tbl gas r
      pure (a ++ rest)

/-! ### one call -/

/-- the counter handed to a call: incremented inside an expansion, reset elsewhere -/
def callDepth (inExp : Bool) (depth : Nat) : Nat := if inExp then depth + 1 else 0

/-- what a call contributes once its arguments are evaluated: the body of the first applicable
    definition in a frame of its own; else, if there is no definition of that name at all, the body
    of the plain rule of that name in the caller's frame; else nothing -/
def expandCall (tbl : Table) (gas d : Nat) (sc : Scope) (me : List Sel) (name : String)
    (args' : List Value) : Except Err (List (String × String) × List OutRule) :=
  match firstApplicable sc args' (tbl.candidates name) with
  | some (m, fr) => evalItems tbl gas d true (fr :: sc) me m.body
  | none =>
      if (tbl.candidates name).isEmpty then
        match tbl.block name with
        | some body => evalItems tbl gas d true sc me body
        | none => .ok ([], [])
      else .ok ([], [])

/-! ### literal frames -/

def LitFrame (fr : Frame) : Bool := fr.all (fun nv => !hasRef nv.2)

def LitScope (sc : Scope) : Bool := sc.all LitFrame

/-! ### textual substitution -/

/-- every `@n` bound in `fr` is replaced by the tokens bound to it; other references stay -/
def substValue (fr : Frame) : Value → Value
  | [] => []
  | .lit s :: r => .lit s :: substValue fr r
  | .ref n :: r =>
      match Frame.get fr n with
      | some v => v ++ substValue fr r
      | none => .ref n :: substValue fr r

/-- the value of `@p + k` when `@p` stands for `v` (the computation inside `evalArg`) -/
def arithVal (v : Value) (k : Int) : Except Err Value :=
  match numOf v with
  | some q =>
      let r := q + (k : Rat)
      if r = 0 then .ok [.lit "0"]
      else .ok [.lit (toString r.num ++ (if r.den = 1 then "" else "/" ++ toString r.den) ++ unitOf v)]
  | none => .error .notNumeric

/-- a token-list argument is substituted; `@p + k` with `@p` bound in `fr` becomes the computed
    number (when `@p` is not a number the argument is left alone: see `inlineArgOK`) -/
def substArg (fr : Frame) : Arg → Arg
  | .val v => .val (substValue fr v)
  | .arith n k =>
      match Frame.get fr n with
      | some v =>
          match arithVal v k with
          | .ok w => .val w
          | .error _ => .arith n k
      | none => .arith n k

mutual
/-- declarations' values, call arguments and, recursively, the bodies of nested rules;
    selectors and names are untouched -/
def substItem (fr : Frame) : Item → Item
  | .decl p v => .decl p (substValue fr v)
  | .rule sel body => .rule sel (substItems fr body)
  | .call name args => .call name (args.map (substArg fr))
def substItems (fr : Frame) : List Item → List Item
  | [] => []
  | i :: r => substItem fr i :: substItems fr r
end

/-! ### closed bodies -/

/-- the argument shape `@n` that `evalArg` resolves by one lookup -/
def singleRef : Value → Option String
  | [.ref n] => some n
  | _ => none

/-- every reference of the value is one of `N` -/
def refsIn (N : List String) : Value → Bool
  | [] => true
  | .lit _ :: r => refsIn N r
  | .ref n :: r => N.contains n && refsIn N r

/-- an argument is `@n` or `@n + k` with `n ∈ N`, or a token list without references -/
def closedArg (N : List String) : Arg → Bool
  | .val v =>
      match singleRef v with
      | some n => N.contains n
      | none => !hasRef v
  | .arith n _ => N.contains n

/-- the names compared by the guard of a definition -/
def guardParams (d : MixinDef) : List String := d.guard.flatten.map (·.param)

/-- arguments that are known without evaluation -/
def staticArgs : List Arg → Option (List Value)
  | [] => some []
  | .val v :: r => if hasRef v then none else (staticArgs r).map (v :: ·)
  | .arith _ _ :: _ => none

/-- with these arguments, `d` either does not bind or binds the name `p` to a number -/
def guardDecided (d : MixinDef) (vs : List Value) (p : String) : Bool :=
  match bindParams d.params vs with
  | some f => ((Frame.get f p).bind numOf).isSome
  | none => true

mutual
/-- `N` are the names bound by the frame the items are evaluated in.  Values and arguments mention
    names of `N` only.  A call may only reach definitions whose guards compare names of `N`, or names
    that `fr` (the frame being substituted away further down the stack) does not bind, or names that
    the arguments, when they are all literal, bind to numbers: when the value bound to a guard
    parameter is not a number, `condHolds` falls back on a lookup of that name in the caller's
    scope. -/
def closedItem (tbl : Table) (fr : Frame) (N : List String) : Item → Bool
  | .decl _ v => refsIn N v
  | .rule _ body => closedItems tbl fr N body
  | .call name args =>
      args.all (closedArg N) &&
      (tbl.candidates name).all (fun d =>
        (guardParams d).all (fun p => N.contains p || (Frame.get fr p).isNone ||
          (match staticArgs args with
           | some vs => guardDecided d vs p
           | none => false)))
def closedItems (tbl : Table) (fr : Frame) (N : List String) : List Item → Bool
  | [] => true
  | i :: r => closedItem tbl fr N i && closedItems tbl fr N r
end

/-- the names bound by the frame of an expansion of `d` -/
def ownNames (d : MixinDef) : List String := d.params.map (·.1) ++ ["arguments"]

def defaultsLit (d : MixinDef) : Bool :=
  d.params.all (fun p => match p.2 with | some v => !hasRef v | none => true)

/-- every definition of the table has literal defaults and a body closed over its own parameters and
    `@arguments`; every plain rule of the table (usable as a mixin, evaluated in the caller's frame)
    mentions no variable at all. -/
def ClosedBodies (tbl : Table) (fr : Frame) : Bool :=
  tbl.mixins.all (fun nd => defaultsLit nd.2 && closedItems tbl fr (ownNames nd.2) nd.2.body) &&
  tbl.blocks.all (fun nb => closedItems tbl fr [] nb.2)

/-! ### side condition on the inlined body -/

/-- a token-list argument with a variable in it is exactly `@n` (a longer one is bound unevaluated
    by `evalArg`, and the callee would then read the caller's frame); `@p + k` with `@p` bound in `fr`
    needs `@p` to be a number there -/
def inlineArgOK (fr : Frame) : Arg → Bool
  | .val v =>
      match singleRef v with
      | some _ => true
      | none => !hasRef v
  | .arith n _ =>
      match Frame.get fr n with
      | some v => (numOf v).isSome
      | none => true

mutual
/-- for every call written in the body: the arguments are as `inlineArgOK` says, and every name `p`
    compared by a guard of a candidate is either not bound in `fr`, or the arguments are, after
    substitution, literal and `p` is bound to a number by them (so that the guard is decided without
    the fall-back lookup in the caller's scope). -/
def inlineItemOK (tbl : Table) (fr : Frame) : Item → Bool
  | .decl _ _ => true
  | .rule _ body => inlineItemsOK tbl fr body
  | .call name args =>
      args.all (inlineArgOK fr) &&
      (tbl.candidates name).all (fun d =>
        (guardParams d).all (fun p =>
          (Frame.get fr p).isNone ||
          (match staticArgs (args.map (substArg fr)) with
           | some vs => guardDecided d vs p
           | none => false)))
def inlineItemsOK (tbl : Table) (fr : Frame) : List Item → Bool
  | [] => true
  | i :: r => inlineItemOK tbl fr i && inlineItemsOK tbl fr r
end

/-- the condition of the task statement that turned out too weak (see Props/C05.lean): every guard of
    every definition compares only parameters of that definition -/
def GuardsOwn (tbl : Table) : Bool :=
  tbl.mixins.all (fun nd => (guardParams nd.2).all (fun p => (nd.2.params.map (·.1)).contains p))

end Lessm.Mixin
