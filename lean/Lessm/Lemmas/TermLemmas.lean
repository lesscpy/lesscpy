/-
  Definitions and lemmas for C20 (termination counters), about `Lessm/Model/Term.lean`.

  Variables.  What a successful `parseNodes` / `substOnce` does is stated once, as the relations
  `Parsed` / `Substd`; the facts about the two functions are inductions on these.  The statements
  about `loop` are proved by its functional induction principle: five cases, in this order (a node fails,
  allowance exhausted, undefined reference, one more round, no reference left); only monotonicity
  (`loop_mono`) goes through the characterisation of success by `Rounds` (`loop_ok_iff`).

  Imports, laid out like `Lessm/Lemmas/ImportLemmas.lean` for the other model of the loader.  The
  textual-inclusion specification (`inline`, `missingOf`, `depthLe`, `allExist`) is four recursions of
  one shape (`…With`), each stated for an arbitrary `sub` (what an imported file contributes), so that a
  statement about level `d` is one induction on `d` (only `depthLe` starts differently, from `noImp`:
  `depthLeWith_of_noImp`); the loader is a fifth: below level 9 it is
  `inlineWith` / `missingWith` over the loader of the next level (`loadUnits_succ`), at level 9 the
  rules of a file without imports (`loadUnits_zero`).
-/
import Lessm.Model.Term
import Lessm.Lemmas.Basic

namespace Lessm.Term

/-- the reference `@n` occurs in the token list, at top level or inside nodes at any depth -/
inductive Occurs : List Tok → String → Prop
  | here (n : String) (r : List Tok) : Occurs (.ref n :: r) n
  | inNode {ts : List Tok} {n : String} (r : List Tok) : Occurs ts n → Occurs (.node ts :: r) n
  | tail {r : List Tok} {n : String} (t : Tok) : Occurs r n → Occurs (t :: r) n

/-- `@n` is reachable from `ts`: it occurs in `ts`, or in the value of a reachable name -/
inductive Reach (env : Env) (ts : List Tok) : String → Prop
  | base {n : String} : Occurs ts n → Reach env ts n
  | step {n m : String} {v : List Tok} :
      Reach env ts n → lookup env n = some v → Occurs v m → Reach env ts m

def AllDef (env : Env) (ts : List Tok) : Prop := ∀ n, Reach env ts n → (lookup env n).isSome

/-- `ts` reaches a name that is defined in terms of itself (directly or through other variables, at
    any nesting depth) -/
def ReachesCycle (env : Env) (ts : List Tok) : Prop :=
  ∃ n v, Reach env ts n ∧ lookup env n = some v ∧ Reach env v n

def Acyclic (env : Env) (ts : List Tok) : Prop :=
  ∀ n v, Reach env ts n → lookup env n = some v → ¬ Reach env v n

theorem occurs_nil (n : String) : ¬ Occurs [] n := nofun

theorem occurs_cons {t : Tok} {r : List Tok} {n : String} :
    Occurs (t :: r) n ↔ t = .ref n ∨ (∃ ts, t = .node ts ∧ Occurs ts n) ∨ Occurs r n := by
  constructor
  · intro h
    cases h with
    | here => exact .inl rfl
    | inNode _ h => exact .inr (.inl ⟨_, rfl, h⟩)
    | tail _ h => exact .inr (.inr h)
  · rintro (rfl | ⟨ts, rfl, h⟩ | h)
    · exact .here _ _
    · exact .inNode _ h
    · exact .tail _ h

theorem occurs_append {a b : List Tok} {n : String} :
    Occurs (a ++ b) n ↔ Occurs a n ∨ Occurs b n := by
  induction a with
  | nil => simp [occurs_nil]
  | cons t r ih => rw [List.cons_append, occurs_cons, occurs_cons, ih, or_assoc, or_assoc]

theorem occurs_iff_mem {ts : List Tok} {n : String} :
    Occurs ts n ↔ Tok.ref n ∈ ts ∨ ∃ ts', Tok.node ts' ∈ ts ∧ Occurs ts' n := by
  constructor
  · intro h
    induction h with
    | here => exact .inl (List.mem_cons_self ..)
    | inNode _ h => exact .inr ⟨_, List.mem_cons_self .., h⟩
    | tail _ _ ih =>
      exact ih.imp (List.mem_cons_of_mem _) fun ⟨ts', h1, h2⟩ => ⟨ts', List.mem_cons_of_mem _ h1, h2⟩
  · rintro (h | ⟨ts', h, ho⟩) <;> obtain ⟨a, b, rfl⟩ := List.append_of_mem h
    · exact occurs_append.2 (.inr (.here _ _))
    · exact occurs_append.2 (.inr (.inNode _ ho))

theorem Reach.mono {env : Env} {ts ts' : List Tok} (hs : ∀ m, Occurs ts' m → Reach env ts m)
    {n : String} (h : Reach env ts' n) : Reach env ts n := by
  induction h with
  | base ho => exact hs _ ho
  | step _ hl ho ih => exact .step ih hl ho

theorem Reach.trans {env : Env} {ts v : List Tok} {n m : String} (h : Reach env ts n)
    (hl : lookup env n = some v) (hv : Reach env v m) : Reach env ts m :=
  Reach.mono (fun _ ho => .step h hl ho) hv

theorem Reach.head {env : Env} {ts : List Tok} {n : String} (h : Reach env ts n) :
    Occurs ts n ∨ ∃ n0 v, Occurs ts n0 ∧ lookup env n0 = some v ∧ Reach env v n := by
  induction h with
  | base ho => exact .inl ho
  | step _ hl ho ih =>
    rcases ih with h1 | ⟨n0, v0, h1, h2, h3⟩
    · exact .inr ⟨_, _, h1, hl, .base ho⟩
    · exact .inr ⟨n0, v0, h1, h2, .step h3 hl ho⟩

theorem AllDef.mono {env : Env} {ts ts' : List Tok} (hs : ∀ m, Occurs ts' m → Reach env ts m)
    (h : AllDef env ts) : AllDef env ts' :=
  fun n hn => h n (Reach.mono hs hn)

theorem Acyclic.mono {env : Env} {ts ts' : List Tok} (hs : ∀ m, Occurs ts' m → Reach env ts m)
    (h : Acyclic env ts) : Acyclic env ts' :=
  fun n v hn => h n v (Reach.mono hs hn)

theorem hasRef_of_mem {ts : List Tok} {n : String} (h : Tok.ref n ∈ ts) : hasRef ts = true := by
  induction ts with
  | nil => cases h
  | cons t r ih =>
    rcases List.mem_cons.1 h with rfl | h'
    · rfl
    · cases t <;> first | rfl | exact ih h'

theorem hasRef_false_iff {ts : List Tok} : hasRef ts = false ↔ ∀ n, Tok.ref n ∉ ts := by
  constructor
  · intro h n hm
    rw [hasRef_of_mem hm] at h; cases h
  · intro h
    induction ts with
    | nil => rfl
    | cons t r ih =>
      have := ih fun n hm => h n (List.mem_cons_of_mem _ hm)
      cases t with
      | ref n => exact absurd (List.mem_cons_self ..) (h n)
      | lit _ | node _ => exact this

/-- everything `parseNodes` does, as one relation: top-level references and literals are kept, every
    node is replaced by the literal of its (successful) evaluation -/
inductive Parsed (inner : List Tok → Except Err (List String)) : List Tok → List Tok → Prop
  | nil : Parsed inner [] []
  | lit {r r' : List Tok} (s : String) : Parsed inner r r' → Parsed inner (.lit s :: r) (.lit s :: r')
  | ref {r r' : List Tok} (n : String) : Parsed inner r r' → Parsed inner (.ref n :: r) (.ref n :: r')
  | node {r r' ts : List Tok} {v : List String} :
      inner ts = .ok v → Parsed inner r r' →
      Parsed inner (.node ts :: r) (.lit (String.join v) :: r')

theorem parseNodes_ok_iff {inner} {ts ts1 : List Tok} :
    parseNodes inner ts = .ok ts1 ↔ Parsed inner ts ts1 := by
  constructor
  · intro h
    induction ts generalizing ts1 with
    | nil => cases h; exact .nil
    | cons t r ih =>
      cases t with
      | lit s => obtain ⟨r', hr, h⟩ := Except.bind_eq_ok.1 h; cases h; exact .lit _ (ih hr)
      | ref s => obtain ⟨r', hr, h⟩ := Except.bind_eq_ok.1 h; cases h; exact .ref _ (ih hr)
      | node s =>
        obtain ⟨v, hv, h⟩ := Except.bind_eq_ok.1 h
        obtain ⟨r', hr, h⟩ := Except.bind_eq_ok.1 h; cases h; exact .node hv (ih hr)
  · intro h
    induction h with
    | nil => rfl
    | lit s _ ih | ref s _ ih => simp only [parseNodes, ih]; rfl
    | node hi _ ih => simp only [parseNodes, hi, ih]; rfl

theorem parseNodes_error {inner} {ts : List Tok} {e : Err} (h : parseNodes inner ts = .error e) :
    ∃ ts', Tok.node ts' ∈ ts ∧ inner ts' = .error e := by
  induction ts with
  | nil => cases h
  | cons t r ih =>
    have tl : parseNodes inner r = .error e → ∃ ts', Tok.node ts' ∈ t :: r ∧ inner ts' = .error e :=
      fun h => (ih h).imp fun _ h => ⟨List.mem_cons_of_mem _ h.1, h.2⟩
    cases t with
    | lit s | ref s => exact tl (Except.bind_pure_eq_error.1 h)
    | node s =>
      rcases Except.bind_eq_error.1 h with h | ⟨_, _, h⟩
      · exact ⟨_, List.mem_cons_self .., h⟩
      · exact tl (Except.bind_pure_eq_error.1 h)

theorem Parsed.mono {inner inner' : List Tok → Except Err (List String)}
    (hin : ∀ ts v, inner ts = .ok v → inner' ts = .ok v) {ts ts1 : List Tok}
    (h : Parsed inner ts ts1) : Parsed inner' ts ts1 := by
  induction h with
  | nil => exact .nil
  | lit s _ ih => exact .lit s ih
  | ref n _ ih => exact .ref n ih
  | node hi _ ih => exact .node (hin _ _ hi) ih

/-- the result has no node: whatever occurs in it is a top-level reference -/
theorem Parsed.ref_mem_of_occurs {inner} {ts ts1 : List Tok} (h : Parsed inner ts ts1) {n : String}
    (ho : Occurs ts1 n) : Tok.ref n ∈ ts1 := by
  induction h with
  | nil => cases ho
  | lit s _ ih | node _ _ ih => cases ho with | tail _ ho => exact List.mem_cons_of_mem _ (ih ho)
  | ref m _ ih =>
    cases ho with
    | here => exact List.mem_cons_self ..
    | tail _ ho => exact List.mem_cons_of_mem _ (ih ho)

theorem Parsed.all_lit {inner} {ts ts1 : List Tok} (h : Parsed inner ts ts1)
    (hh : hasRef ts1 = false) : ts1 = (texts ts1).map Tok.lit := by
  induction h with
  | nil => rfl
  | lit s _ ih | node _ _ ih => exact congrArg _ (ih hh)
  | ref n _ _ => cases hh

theorem Parsed.ref_mem {inner} {ts ts1 : List Tok} (h : Parsed inner ts ts1) (n : String) :
    Tok.ref n ∈ ts1 ↔ Tok.ref n ∈ ts := by
  induction h <;> simp_all

theorem Parsed.node_ok {inner} {ts ts1 : List Tok} (h : Parsed inner ts ts1) {ts' : List Tok}
    (hm : Tok.node ts' ∈ ts) : ∃ v, inner ts' = .ok v := by
  induction h with
  | nil => cases hm
  | lit s _ ih | ref s _ ih => exact ih (by simpa using hm)
  | node hi _ ih =>
    rcases List.mem_cons.1 hm with h | h
    · cases h; exact ⟨_, hi⟩
    · exact ih h

theorem Parsed.occurs_sub {inner} {ts ts1 : List Tok} (h : Parsed inner ts ts1) {n : String}
    (ho : Occurs ts1 n) : Occurs ts n :=
  occurs_iff_mem.2 (.inl ((h.ref_mem n).1 (h.ref_mem_of_occurs ho)))

theorem Parsed.reach {inner} {env : Env} {ts ts1 : List Tok} (h : Parsed inner ts ts1) {n : String}
    (hr : Reach env ts n) :
    Reach env ts1 n ∨ ∃ ts' v, Tok.node ts' ∈ ts ∧ inner ts' = .ok v ∧ Reach env ts' n := by
  induction hr with
  | base ho =>
    rcases occurs_iff_mem.1 ho with h1 | ⟨ts', h1, h2⟩
    · exact .inl (.base (occurs_iff_mem.2 (.inl ((h.ref_mem _).2 h1))))
    · obtain ⟨v, hv⟩ := h.node_ok h1
      exact .inr ⟨ts', v, h1, hv, .base h2⟩
  | step _ hl ho ih =>
    rcases ih with h1 | ⟨ts', v, h1, h2, h3⟩
    · exact .inl (.step h1 hl ho)
    · exact .inr ⟨ts', v, h1, h2, .step h3 hl ho⟩

/-- everything a successful `substOnce` does, as one relation -/
inductive Substd (env : Env) : List Tok → List Tok → Prop
  | nil : Substd env [] []
  | lit {r r' : List Tok} (s : String) : Substd env r r' → Substd env (.lit s :: r) (.lit s :: r')
  | node {r r' : List Tok} (s : List Tok) :
      Substd env r r' → Substd env (.node s :: r) (.node s :: r')
  | ref {r r' v : List Tok} {n : String} :
      lookup env n = some v → Substd env r r' → Substd env (.ref n :: r) (v ++ r')

theorem substOnce_ok_iff {env : Env} {ts ts2 : List Tok} :
    substOnce env ts = .ok ts2 ↔ Substd env ts ts2 := by
  constructor
  · intro h
    induction ts generalizing ts2 with
    | nil => cases h; exact .nil
    | cons t r ih =>
      cases t with
      | lit s => obtain ⟨r', hr, h⟩ := Except.bind_eq_ok.1 h; cases h; exact .lit _ (ih hr)
      | node s => obtain ⟨r', hr, h⟩ := Except.bind_eq_ok.1 h; cases h; exact .node _ (ih hr)
      | ref n =>
        rw [substOnce] at h
        split at h
        · cases h
        next hl => obtain ⟨r', hr, h⟩ := Except.bind_eq_ok.1 h; cases h; exact .ref hl (ih hr)
  · intro h
    induction h with
    | nil => rfl
    | lit s _ ih | node s _ ih => simp only [substOnce, ih]; rfl
    | ref hl _ ih => simp only [substOnce, hl, ih]; rfl

theorem substOnce_error {env : Env} {ts : List Tok} {e : Err} (h : substOnce env ts = .error e) :
    ∃ n, Tok.ref n ∈ ts ∧ lookup env n = none ∧ e = .unknown n := by
  induction ts with
  | nil => cases h
  | cons t r ih =>
    have tl : substOnce env r = .error e →
        ∃ n, Tok.ref n ∈ t :: r ∧ lookup env n = none ∧ e = .unknown n :=
      fun h => (ih h).imp fun _ h => ⟨List.mem_cons_of_mem _ h.1, h.2⟩
    cases t with
    | lit s | node s => exact tl (Except.bind_pure_eq_error.1 h)
    | ref n =>
      rw [substOnce] at h
      split at h
      next hl => cases h; exact ⟨n, List.mem_cons_self .., hl, rfl⟩
      · exact tl (Except.bind_pure_eq_error.1 h)

theorem Substd.occurs_value {env : Env} {ts ts2 : List Tok} (h : Substd env ts ts2) {n m : String}
    {v : List Tok} (hm : Tok.ref n ∈ ts) (hl : lookup env n = some v) (ho : Occurs v m) :
    Occurs ts2 m := by
  induction h with
  | nil => cases hm
  | lit s _ ih | node s _ ih => exact .tail _ (ih (by simpa using hm))
  | ref hl' _ ih =>
    rcases List.mem_cons.1 hm with h | h
    · cases h
      rw [hl] at hl'; cases hl'
      exact occurs_append.2 (.inl ho)
    · exact occurs_append.2 (.inr (ih h))

theorem Substd.occurs_reach {env : Env} {ts ts2 : List Tok} (h : Substd env ts ts2) {m : String}
    (ho : Occurs ts2 m) : Reach env ts m := by
  have tl {t : Tok} {r : List Tok} : Reach env r m → Reach env (t :: r) m :=
    Reach.mono fun _ ho' => .base (.tail _ ho')
  induction h with
  | nil => cases ho
  | lit s _ ih => cases ho with | tail _ ho => exact tl (ih ho)
  | node s _ ih =>
    cases ho with
    | inNode _ ho => exact .base (.inNode _ ho)
    | tail _ ho => exact tl (ih ho)
  | ref hl _ ih =>
    rcases occurs_append.1 ho with h | h
    · exact .step (.base (.here _ _)) hl h
    · exact tl (ih h)

/-! ### a reachable cycle is never evaluated successfully -/

/-- `parseNodes` keeps a cycle in reach, unless it lay behind a node that evaluated successfully -/
theorem Parsed.reachesCycle {env : Env} {inner} {ts ts1 : List Tok} (hP : Parsed inner ts ts1)
    (hin : ∀ ts, ReachesCycle env ts → ∀ v, inner ts ≠ .ok v) :
    ReachesCycle env ts → ReachesCycle env ts1 := by
  rintro ⟨n, v, hr, hc⟩
  rcases hP.reach hr with h1 | ⟨ts', v', _, h2, h3⟩
  · exact ⟨n, v, h1, hc⟩
  · exact absurd h2 (hin ts' ⟨n, v, h3, hc⟩ v')

/-- a round keeps a cycle in reach: the value of the reference that led to it is now in the list -/
theorem Substd.reachesCycle {env : Env} {inner} {ts ts1 ts2 : List Tok} (hP : Parsed inner ts ts1)
    (hS : Substd env ts1 ts2) : ReachesCycle env ts1 → ReachesCycle env ts2 := by
  rintro ⟨n, vc, hr, hlc, hrc⟩
  refine ⟨n, vc, ?_, hlc, hrc⟩
  rcases hr.head with ho | ⟨n1, v1, ho, hl1, hr1⟩
  · exact Reach.mono (fun m hm => .base (hS.occurs_value (hP.ref_mem_of_occurs ho) hlc hm)) hrc
  · exact Reach.mono (fun m hm => .base (hS.occurs_value (hP.ref_mem_of_occurs ho) hl1 hm)) hr1

theorem loop_cycle_not_ok {env : Env} {inner : List Tok → Except Err (List String)}
    (hin : ∀ ts, ReachesCycle env ts → ∀ v, inner ts ≠ .ok v) (left : Nat) (ts : List Tok) :
    ReachesCycle env ts → ∀ v, loop inner env left ts ≠ .ok v := by
  fun_induction loop inner env left ts with
  | case1 | case2 | case3 => exact fun _ _ => nofun
  | case4 ts ts1 hp _ left ts2 hs ih =>
    have hP := parseNodes_ok_iff.1 hp
    exact fun h => ih ((substOnce_ok_iff.1 hs).reachesCycle hP (hP.reachesCycle hin h))
  | case5 left ts ts1 hp hh =>
    intro h
    have hP := parseNodes_ok_iff.1 hp
    obtain ⟨n, _, hr, _⟩ := hP.reachesCycle hin h
    -- something still occurs in `ts1`, so it has a top-level reference
    rcases hr.head with h0 | ⟨_, _, h0, _⟩ <;> exact absurd (hasRef_of_mem (hP.ref_mem_of_occurs h0)) hh

theorem process_cycle_not_ok {env : Env} (b : Nat) :
    ∀ ts, ReachesCycle env ts → ∀ v, process env b ts ≠ .ok v := by
  induction b with
  | zero => exact fun _ _ _ => nofun
  | succ b ih => exact loop_cycle_not_ok ih _

/-! ### if every reachable name is defined, `unknown` is never reported -/

theorem loop_no_unknown {env : Env} {inner : List Tok → Except Err (List String)}
    (hin : ∀ ts, AllDef env ts → ∀ m, inner ts ≠ .error (.unknown m)) (left : Nat) (ts : List Tok) :
    AllDef env ts → ∀ m, loop inner env left ts ≠ .error (.unknown m) := by
  fun_induction loop inner env left ts with
  | case1 left ts e hp =>
    intro hd m he
    obtain ⟨ts', h1, h2⟩ := parseNodes_error hp
    cases he
    exact hin ts' (hd.mono fun _ ho => .base (occurs_iff_mem.2 (.inr ⟨_, h1, ho⟩))) m h2
  | case2 | case5 => exact fun _ _ => nofun
  | case3 ts ts1 hp _ left e hs =>
    intro hd
    obtain ⟨n, h1, h2, _⟩ := substOnce_error hs
    have := hd n (.base ((parseNodes_ok_iff.1 hp).occurs_sub (occurs_iff_mem.2 (.inl h1))))
    rw [h2] at this; cases this
  | case4 ts ts1 hp _ left ts2 hs ih =>
    exact fun hd => ih (hd.mono fun _ ho =>
      Reach.mono (fun _ ho' => .base ((parseNodes_ok_iff.1 hp).occurs_sub ho'))
        ((substOnce_ok_iff.1 hs).occurs_reach ho))

theorem process_no_unknown {env : Env} (b : Nat) :
    ∀ ts, AllDef env ts → ∀ m, process env b ts ≠ .error (.unknown m) := by
  induction b with
  | zero => exact fun _ _ _ => nofun
  | succ b ih => exact loop_no_unknown ih _

/-- `Rounds inner env k ts ts'`: `ts'` is the token list after `k` full substitution rounds and the
    final `parseNodes` (every intermediate list still had a top-level reference) -/
def Rounds (inner : List Tok → Except Err (List String)) (env : Env) : Nat → List Tok → List Tok → Prop
  | 0, ts, ts' => Parsed inner ts ts'
  | k + 1, ts, ts' => ∃ ts1 ts2, Parsed inner ts ts1 ∧ hasRef ts1 = true ∧ Substd env ts1 ts2 ∧
      Rounds inner env k ts2 ts'

theorem Rounds.last {inner env} {k : Nat} {ts ts' : List Tok} (h : Rounds inner env k ts ts') :
    ∃ ts0, Parsed inner ts0 ts' := by
  induction k generalizing ts with
  | zero => exact ⟨_, h⟩
  | succ k ih => obtain ⟨_, _, _, _, _, h⟩ := h; exact ih h

theorem Rounds.mono {inner inner' : List Tok → Except Err (List String)} {env : Env}
    (hin : ∀ ts v, inner ts = .ok v → inner' ts = .ok v) {k : Nat} {ts ts' : List Tok}
    (h : Rounds inner env k ts ts') : Rounds inner' env k ts ts' := by
  induction k generalizing ts with
  | zero => exact Parsed.mono hin h
  | succ k ih =>
    obtain ⟨ts1, ts2, hp, hh, hs, h⟩ := h
    exact ⟨ts1, ts2, hp.mono hin, hh, hs, ih h⟩

theorem loop_of_parsed {inner env} {left : Nat} {ts ts1 : List Tok}
    (hp : parseNodes inner ts = .ok ts1) :
    loop inner env left ts =
      if hasRef ts1 then
        match left with
        | 0 => .error .recursive
        | left' + 1 =>
          match substOnce env ts1 with
          | .error e => .error e
          | .ok ts2 => loop inner env left' ts2
      else .ok (texts ts1) := by
  rw [loop, hp]; rfl

theorem loop_ok_iff {inner env} (left : Nat) (ts : List Tok) (v : List String) :
    loop inner env left ts = .ok v ↔
      ∃ k, k ≤ left ∧ ∃ ts', Rounds inner env k ts ts' ∧ hasRef ts' = false ∧ v = texts ts' := by
  constructor
  · fun_induction loop inner env left ts with
    | case1 | case2 | case3 => exact nofun
    | case4 ts ts1 hp hh left ts2 hs ih =>
      intro h
      obtain ⟨k, hk, ts', hr, h'⟩ := ih h
      exact ⟨k + 1, Nat.succ_le_succ hk, ts',
        ⟨ts1, ts2, parseNodes_ok_iff.1 hp, hh, substOnce_ok_iff.1 hs, hr⟩, h'⟩
    | case5 left ts ts1 hp hh =>
      intro h; cases h
      exact ⟨0, Nat.zero_le _, ts1, parseNodes_ok_iff.1 hp, by simpa using hh, rfl⟩
  · rintro ⟨k, hk, ts', hr, hh, rfl⟩
    induction k generalizing left ts with
    | zero => rw [loop_of_parsed (parseNodes_ok_iff.2 hr), hh]; rfl
    | succ k ih =>
      obtain ⟨ts1, ts2, hp, hh1, hs, hr'⟩ := hr
      obtain ⟨left, rfl⟩ := Nat.exists_eq_add_one_of_ne_zero (Nat.ne_zero_of_lt hk)
      rw [loop_of_parsed (parseNodes_ok_iff.2 hp), if_pos hh1]
      simp only [substOnce_ok_iff.2 hs]
      exact ih left ts2 (Nat.le_of_succ_le_succ hk) hr'

theorem loop_mono {env : Env} {inner inner' : List Tok → Except Err (List String)}
    (hin : ∀ ts v, inner ts = .ok v → inner' ts = .ok v)
    (left left' : Nat) (ts : List Tok) (v : List String) (hle : left ≤ left')
    (h : loop inner env left ts = .ok v) : loop inner' env left' ts = .ok v :=
  let ⟨k, hk, ts', hr, h'⟩ := (loop_ok_iff left ts v).1 h
  (loop_ok_iff left' ts v).2 ⟨k, Nat.le_trans hk hle, ts', hr.mono hin, h'⟩

theorem process_mono {env : Env} (b b' : Nat) (ts : List Tok) (v : List String) (hle : b ≤ b')
    (h : process env b ts = .ok v) : process env b' ts = .ok v := by
  induction b generalizing b' ts v with
  | zero => cases h
  | succ b ih =>
    obtain ⟨b', rfl⟩ := Nat.exists_eq_add_one_of_ne_zero (Nat.ne_zero_of_lt hle)
    exact loop_mono (fun ts v => ih b' ts v (Nat.le_of_succ_le_succ hle)) _ _ ts v (Nat.le_refl _) h

/-- the top-level references of `ts` are gone after `d` substitution rounds (nodes count as text:
    they are evaluated to text by the next `parseNodes`) -/
inductive Dies (env : Env) : Nat → List Tok → Prop
  | nil {d : Nat} : Dies env d []
  | lit {d : Nat} {r : List Tok} (s : String) : Dies env d r → Dies env d (.lit s :: r)
  | node {d : Nat} {r : List Tok} (s : List Tok) : Dies env d r → Dies env d (.node s :: r)
  | ref {d : Nat} {r v : List Tok} {n : String} :
      lookup env n = some v → Dies env d v → Dies env (d + 1) r → Dies env (d + 1) (.ref n :: r)

theorem Dies.zero_hasRef {env : Env} {ts : List Tok} (h : Dies env 0 ts) : hasRef ts = false := by
  generalize hd : 0 = d at h
  induction h with
  | nil => rfl
  | lit s _ ih | node s _ ih => exact ih hd
  | ref => cases hd

theorem Dies.le {env : Env} {d d' : Nat} {ts : List Tok} (h : Dies env d ts) (hle : d ≤ d') :
    Dies env d' ts := by
  induction h generalizing d' with
  | nil => exact .nil
  | lit s _ ih => exact .lit s (ih hle)
  | node s _ ih => exact .node s (ih hle)
  | ref hl _ _ ih1 ih2 =>
    obtain ⟨d', rfl⟩ := Nat.exists_eq_add_one_of_ne_zero (Nat.ne_zero_of_lt hle)
    exact .ref hl (ih1 (Nat.le_of_succ_le_succ hle)) (ih2 hle)

theorem Dies.append {env : Env} {d : Nat} {a b : List Tok} (ha : Dies env d a) (hb : Dies env d b) :
    Dies env d (a ++ b) := by
  induction ha with
  | nil => exact hb
  | lit s _ ih => exact .lit s (ih hb)
  | node s _ ih => exact .node s (ih hb)
  | ref hl hv _ _ ih2 => exact .ref hl hv (ih2 hb)

theorem Dies.parsed {env : Env} {inner} {d : Nat} {ts ts1 : List Tok} (h : Dies env d ts)
    (hP : Parsed inner ts ts1) : Dies env d ts1 := by
  induction h generalizing ts1 with
  | nil => cases hP; exact .nil
  | lit s _ ih => cases hP with | lit _ hp => exact .lit s (ih hp)
  | node s _ ih => cases hP with | node _ hp => exact .lit _ (ih hp)
  | ref hl hv _ _ ih2 => cases hP with | ref _ hp => exact .ref hl hv (ih2 hp)

theorem Dies.substd {env : Env} {d : Nat} {ts ts2 : List Tok} (hS : Substd env ts ts2)
    (h : Dies env (d + 1) ts) : Dies env d ts2 := by
  induction hS with
  | nil => exact .nil
  | lit s _ ih => cases h with | lit _ h' => exact .lit s (ih h')
  | node s _ ih => cases h with | node _ h' => exact .node s (ih h')
  | ref hl _ ih =>
    cases h with
    | ref hl' hv hr =>
      rw [hl] at hl'; cases hl'
      exact hv.append (ih hr)

theorem Dies.of_refs {env : Env} {d : Nat} {ts : List Tok}
    (h : ∀ n, Tok.ref n ∈ ts → ∃ v, lookup env n = some v ∧ Dies env d v) : Dies env (d + 1) ts := by
  induction ts with
  | nil => exact .nil
  | cons t r ih =>
    have hr := ih fun n hn => h n (List.mem_cons_of_mem _ hn)
    cases t with
    | lit s => exact .lit s hr
    | node s => exact .node s hr
    | ref n =>
      obtain ⟨v, hl, hv⟩ := h n (List.mem_cons_self ..)
      exact .ref hl hv hr

/-- a value that dies within `d` rounds is evaluated alike under every allowance `left ≥ d` -/
theorem loop_stable {env : Env} (inner : List Tok → Except Err (List String))
    (left : Nat) {d : Nat} (k : Nat) (ts : List Tok) (hd : Dies env d ts) (hle : d ≤ left) :
    loop inner env (left + k) ts = loop inner env left ts := by
  fun_induction loop inner env left ts generalizing d with
  | case1 left ts e hp => rw [loop, hp]
  | case2 ts ts1 hp hh =>
    obtain rfl := Nat.le_zero.1 hle
    rw [(hd.parsed (parseNodes_ok_iff.1 hp)).zero_hasRef] at hh; cases hh
  | case3 ts ts1 hp hh left e hs => rw [Nat.succ_add, loop_of_parsed hp, if_pos hh]; simp only [hs]
  | case4 ts ts1 hp hh left ts2 hs ih =>
    have hd1 := hd.parsed (parseNodes_ok_iff.1 hp)
    rw [Nat.succ_add, loop_of_parsed hp, if_pos hh]
    simp only [hs]
    cases d with
    | zero => rw [hd1.zero_hasRef] at hh; cases hh
    | succ d => exact ih (Dies.substd (substOnce_ok_iff.1 hs) hd1) (Nat.le_of_succ_le_succ hle)
  | case5 left ts ts1 hp hh => rw [loop_of_parsed hp, if_neg hh]

theorem mem_of_lookup {env : Env} {n : String} {v : List Tok} (h : lookup env n = some v) :
    (n, v) ∈ env := by
  induction env with
  | nil => cases h
  | cons p r ih =>
    obtain ⟨k, w⟩ := p
    simp only [lookup] at h
    split at h
    next hk =>
      cases h; cases eq_of_beq hk
      exact List.mem_cons_self ..
    · exact List.mem_cons_of_mem _ (ih h)

/-- Pigeonhole: in an acyclic definition set `#variables + 1` rounds remove every reference.  `seen` is
    a duplicate-free dependency chain of defined names, the value of each reaching everything that
    occurs in `ts'`; no occurring name can be on the chain, so each round makes the chain longer, and it
    cannot become longer than the environment. -/
theorem dies_of_acyclic {env : Env} {ts : List Tok} (hdef : AllDef env ts) (hac : Acyclic env ts) :
    Dies env (env.length + 1) ts := by
  suffices ∀ (f : Nat) (seen : List String) (ts' : List Tok),
      seen.Nodup → env.length < seen.length + f → (∀ m, Occurs ts' m → Reach env ts m) →
      (∀ s ∈ seen, ∃ v, lookup env s = some v ∧ ∀ m, Occurs ts' m → Reach env v m) →
      Dies env f ts' from
    this _ [] ts List.nodup_nil (by simp) (fun _ hm => .base hm) (List.forall_mem_nil _)
  intro f
  induction f with
  | zero =>
    intro seen ts' hn hlen _ hseen
    have := hn.length_le_of_subset (l₂ := env.map (·.1)) fun s hs =>
      let ⟨_, hl, _⟩ := hseen s hs
      List.mem_map.2 ⟨_, mem_of_lookup hl, rfl⟩
    rw [List.length_map] at this
    exact absurd hlen (Nat.not_lt_of_le this)
  | succ f ih =>
    intro seen ts' hn hlen hsub hseen
    refine Dies.of_refs fun n hm => ?_
    have ho : Occurs ts' n := occurs_iff_mem.2 (.inl hm)
    have hrn : Reach env ts n := hsub n ho
    obtain ⟨v, hl⟩ := Option.isSome_iff_exists.1 (hdef n hrn)
    have hnot : n ∉ seen := fun hmem =>
      let ⟨v', hl', hr'⟩ := hseen n hmem
      hac n v' hrn hl' (hr' n ho)
    refine ⟨v, hl, ih (n :: seen) v (List.nodup_cons.2 ⟨hnot, hn⟩) ?_
      (fun m hm => .step hrn hl hm) fun s hs => ?_⟩
    · rw [List.length_cons, Nat.add_right_comm]; exact hlen
    · rcases List.mem_cons.1 hs with rfl | hs
      · exact ⟨v, hl, fun m hm => .base hm⟩
      · obtain ⟨v', hl', hr'⟩ := hseen s hs
        exact ⟨v', hl', fun m hm => .step (hr' n ho) hl hm⟩

/-! ### decidable sufficient checks of `AllDef` and `Acyclic`, for concrete data -/

mutual
def Tok.names : Tok → List String
  | .lit _ => []
  | .ref n => [n]
  | .node ts => namesL ts
def namesL : List Tok → List String
  | [] => []
  | t :: r => t.names ++ namesL r
end

theorem mem_namesL_of_occurs {ts : List Tok} {n : String} (h : Occurs ts n) : n ∈ namesL ts := by
  induction h with
  | here n r => simp [namesL, Tok.names]
  | inNode r _ ih => simp [namesL, Tok.names, ih]
  | tail t _ ih => simp [namesL, ih]

mutual
theorem Tok.occurs_of_mem_names : ∀ (t : Tok) (r : List Tok) (n : String),
    n ∈ t.names → Occurs (t :: r) n
  | .lit _, _, _, h => nomatch h
  | .ref m, r, n, h => by cases List.mem_singleton.1 h; exact .here _ _
  | .node ts, r, n, h => .inNode _ (occurs_of_mem_namesL ts n h)
theorem occurs_of_mem_namesL : ∀ (ts : List Tok) (n : String), n ∈ namesL ts → Occurs ts n
  | [], _, h => nomatch h
  | t :: r, n, h =>
    (List.mem_append.1 h).elim (t.occurs_of_mem_names r n) fun h => .tail _ (occurs_of_mem_namesL r n h)
end

theorem occurs_iff_mem_namesL {ts : List Tok} {n : String} : Occurs ts n ↔ n ∈ namesL ts :=
  ⟨mem_namesL_of_occurs, occurs_of_mem_namesL ts n⟩

instance (ts : List Tok) (n : String) : Decidable (Occurs ts n) :=
  decidable_of_iff _ occurs_iff_mem_namesL.symm

def allDefB (env : Env) (ts : List Tok) : Bool :=
  (namesL ts).all (fun n => (lookup env n).isSome) &&
  env.all (fun p => (namesL p.2).all (fun n => (lookup env n).isSome))

theorem allDef_of_allDefB {env : Env} {ts : List Tok} (h : allDefB env ts = true) : AllDef env ts := by
  simp only [allDefB, Bool.and_eq_true, List.all_eq_true] at h
  intro n hr
  induction hr with
  | base ho => exact h.1 _ (mem_namesL_of_occurs ho)
  | step _ hl ho _ => exact h.2 _ (mem_of_lookup hl) _ (mem_namesL_of_occurs ho)

def rankOKB (env : Env) (rk : String → Nat) : Bool :=
  env.all (fun p => (namesL p.2).all (fun m => rk m < rk p.1))

theorem acyclic_of_rank {env : Env} (rk : String → Nat) (h : rankOKB env rk = true)
    (ts : List Tok) : Acyclic env ts := by
  simp only [rankOKB, List.all_eq_true, decide_eq_true_eq] at h
  have step : ∀ n v m, lookup env n = some v → Occurs v m → rk m < rk n :=
    fun n v m hl ho => h _ (mem_of_lookup hl) _ (mem_namesL_of_occurs ho)
  intro n v _ hl hr
  have : ∀ m, Reach env v m → rk m < rk n := by
    intro m hm
    induction hm with
    | base ho => exact step _ _ _ hl ho
    | step _ hl' ho ih => exact Nat.lt_trans (step _ _ _ hl' ho) ih
  exact Nat.lt_irrefl _ (this n hr)

/-! ### imports: chains of `@import`s, the textual-inclusion specification, the loader level by level -/

/-- the file `f` exists and holds an `@import` of the existing file `g` -/
def Imports (files : Files) (f g : String) : Prop :=
  ∃ us, findFileU files f = some us ∧ Unit'.imp g ∈ us ∧ (findFileU files g).isSome = true

instance (files : Files) (f g : String) : Decidable (Imports files f g) :=
  match h : findFileU files f with
  | none => isFalse (by rintro ⟨us, h1, _⟩; rw [h] at h1; cases h1)
  | some us =>
    if h2 : Unit'.imp g ∈ us ∧ (findFileU files g).isSome = true then isTrue ⟨us, h, h2.1, h2.2⟩
    else isFalse (by rintro ⟨us', h1, h3⟩; rw [h] at h1; cases h1; exact h2 h3)

/-- `g` is reached from `f` by one or more `@import` steps through existing files -/
inductive IReach (files : Files) : String → String → Prop
  | single {f g : String} : Imports files f g → IReach files f g
  | step {f g h : String} : Imports files f g → IReach files g h → IReach files f h

/-- there is a chain of exactly `k` imports through existing files that starts in `f` -/
def HasPath (files : Files) : Nat → String → Prop
  | 0, f => (findFileU files f).isSome = true
  | k + 1, f => ∃ g, Imports files f g ∧ HasPath files k g

theorem Imports.exists_left {files : Files} {f g : String} (h : Imports files f g) :
    (findFileU files f).isSome = true := by
  obtain ⟨us, h1, _⟩ := h; simp [h1]

theorem HasPath.pred {files : Files} {k : Nat} {f : String} (h : HasPath files (k + 1) f) :
    HasPath files k f := by
  induction k generalizing f with
  | zero => obtain ⟨_, hi, _⟩ := h; exact hi.exists_left
  | succ k ih => obtain ⟨g, hi, hp⟩ := h; exact ⟨g, hi, ih hp⟩

theorem IReach.path {files : Files} {a c : String} (h : IReach files a c) {k : Nat}
    (hp : HasPath files k c) : HasPath files (k + 1) a := by
  induction h with
  | single hi => exact ⟨_, hi, hp⟩
  | step hi _ ih => exact ⟨_, hi, (ih hp).pred⟩

theorem cycle_paths {files : Files} {c : String} (h : IReach files c c) (k : Nat) :
    HasPath files k c := by
  induction k with
  | zero => cases h with | single hi | step hi _ => exact hi.exists_left
  | succ k ih => exact h.path ih

/-- units → text, with `sub` for the units of an imported file -/
def inlineWith (files : Files) (sub : List Unit' → List String) : List Unit' → List String
  | [] => []
  | .rule t :: r => t :: inlineWith files sub r
  | .imp f :: r =>
      (match findFileU files f with
       | none => []
       | some us => sub us) ++ inlineWith files sub r

/-- textual inclusion with `d` levels of imports followed (a rule is its text, an existing import the
    inlined units of its file, a missing import nothing) -/
def inline (files : Files) : Nat → List Unit' → List String
  | 0 => inlineWith files (fun _ => [])
  | d + 1 => inlineWith files (inline files d)

def missingWith (files : Files) (sub : List Unit' → List IErr) : List Unit' → List IErr
  | [] => []
  | .rule _ :: r => missingWith files sub r
  | .imp f :: r =>
      (match findFileU files f with
       | none => [.missing f]
       | some us => sub us) ++ missingWith files sub r

/-- the missing imports in traversal order, `d` levels of imports followed -/
def missingOf (files : Files) : Nat → List Unit' → List IErr
  | 0 => missingWith files (fun _ => [])
  | d + 1 => missingWith files (missingOf files d)

def noImp : List Unit' → Bool
  | [] => true
  | .rule _ :: r => noImp r
  | .imp _ :: _ => false

def depthLeWith (files : Files) (sub : List Unit' → Bool) : List Unit' → Bool
  | [] => true
  | .rule _ :: r => depthLeWith files sub r
  | .imp f :: r =>
      (match findFileU files f with
       | none => true
       | some us => sub us) && depthLeWith files sub r

/-- every chain of import statements that starts in these units and runs through existing files
    (the last import may name a missing file) has at most `d` imports -/
def depthLe (files : Files) : Nat → List Unit' → Bool
  | 0 => noImp
  | d + 1 => depthLeWith files (depthLe files d)

def allExistWith (files : Files) (sub : List Unit' → Bool) : List Unit' → Bool
  | [] => true
  | .rule _ :: r => allExistWith files sub r
  | .imp f :: r =>
      (match findFileU files f with
       | none => false
       | some us => sub us) && allExistWith files sub r

/-- every import followed within `d` levels names an existing file -/
def allExist (files : Files) : Nat → List Unit' → Bool
  | 0 => allExistWith files (fun _ => true)
  | d + 1 => allExistWith files (allExist files d)

theorem inlineWith_append (files : Files) (sub) (a b : List Unit') :
    inlineWith files sub (a ++ b) = inlineWith files sub a ++ inlineWith files sub b := by
  induction a with
  | nil => rfl
  | cons u r ih => cases u <;> simp [inlineWith, ih]

theorem missingWith_append (files : Files) (sub) (a b : List Unit') :
    missingWith files sub (a ++ b) = missingWith files sub a ++ missingWith files sub b := by
  induction a with
  | nil => rfl
  | cons u r ih => cases u <;> simp [missingWith, ih]

theorem missingWith_nil_of_allExistWith (files : Files) {subE : List Unit' → Bool}
    {subM : List Unit' → List IErr} (hsub : ∀ us, subE us = true → subM us = []) (us : List Unit')
    (h : allExistWith files subE us = true) : missingWith files subM us = [] := by
  induction us with
  | nil => rfl
  | cons u r ih =>
    cases u with
    | rule t => exact ih h
    | imp f =>
      simp only [allExistWith, Bool.and_eq_true] at h
      simp only [missingWith, ih h.2, List.append_nil]
      cases hf : findFileU files f with
      | none => simp [hf] at h
      | some uf => exact hsub uf (by simpa only [hf] using h.1)

theorem missingOf_of_allExist (files : Files) (b : Nat) :
    ∀ us, allExist files b us = true → missingOf files b us = [] := by
  induction b with
  | zero => exact missingWith_nil_of_allExistWith files fun _ _ => rfl
  | succ b ih => exact missingWith_nil_of_allExistWith files ih

theorem tooDeep_not_mem_missingWith (files : Files) {sub : List Unit' → List IErr}
    (hsub : ∀ us, IErr.tooDeep ∉ sub us) (us : List Unit') :
    IErr.tooDeep ∉ missingWith files sub us := by
  induction us with
  | nil => exact List.not_mem_nil
  | cons u r ih =>
    cases u with
    | rule t => exact ih
    | imp f =>
      cases hf : findFileU files f with
      | none => simpa [missingWith, hf] using ih
      | some uf => simpa [missingWith, hf] using ⟨hsub uf, ih⟩

theorem tooDeep_not_mem_missingOf (files : Files) (b : Nat) :
    ∀ us, IErr.tooDeep ∉ missingOf files b us := by
  induction b with
  | zero => exact tooDeep_not_mem_missingWith files fun _ => List.not_mem_nil
  | succ b ih => exact tooDeep_not_mem_missingWith files ih

theorem depthLeWith_of_noImp (files : Files) (sub) {us : List Unit'} (h : noImp us = true) :
    depthLeWith files sub us = true := by
  induction us with
  | nil => rfl
  | cons u r ih =>
    cases u with
    | imp f => cases h
    | rule t => exact ih h

/-- `sub` is consulted only at the existing files that the units import -/
theorem specWith_congr (files : Files) {subD : List Unit' → Bool}
    {subP subP' : List Unit' → List String} {subM subM' : List Unit' → List IErr}
    (hs : ∀ us, subD us = true → subP us = subP' us ∧ subM us = subM' us)
    (us : List Unit') (h : depthLeWith files subD us = true) :
    inlineWith files subP us = inlineWith files subP' us ∧
    missingWith files subM us = missingWith files subM' us := by
  induction us with
  | nil => exact ⟨rfl, rfl⟩
  | cons u r ih =>
    cases u with
    | rule t => simp only [inlineWith, missingWith, ih h, and_self]
    | imp f =>
      simp only [depthLeWith, Bool.and_eq_true] at h
      simp only [inlineWith, missingWith, ih h.2]
      cases hf : findFileU files f with
      | none => exact ⟨rfl, rfl⟩
      | some uf => simp only [hs uf (by simpa only [hf] using h.1), and_self]

/-- what the parser of level `9 - b` makes of an imported file: its output, nothing if it aborted -/
def subOut (files : Files) (b : Nat) (us : List Unit') : List String :=
  ((loadUnits files b us).1).getD []

/-- … and its register, with `tooDeep` after it if it aborted -/
def subErrs (files : Files) (b : Nat) (us : List Unit') : List IErr :=
  (loadUnits files b us).2 ++ if (loadUnits files b us).1.isNone then [.tooDeep] else []

theorem loadUnits_rule (files : Files) (b : Nat) (t : String) (r : List Unit') :
    loadUnits files b (.rule t :: r) =
      ((loadUnits files b r).1.map (t :: ·), (loadUnits files b r).2) := by
  rw [loadUnits]
  rcases h : loadUnits files b r with ⟨_ | out, errs⟩ <;> rfl

/-- below level 9 the parser is the recursion of the specification, over the parser of the next level -/
theorem loadUnits_succ (files : Files) (b : Nat) (us : List Unit') :
    loadUnits files (b + 1) us =
      (some (inlineWith files (subOut files b) us), missingWith files (subErrs files b) us) := by
  induction us with
  | nil => rw [loadUnits]; rfl
  | cons u r ih =>
    cases u with
    | rule t => rw [loadUnits_rule, ih]; rfl
    | imp f =>
      rw [loadUnits, ih]
      simp only [inlineWith, missingWith, subOut, subErrs]
      cases findFileU files f with
      | none => rfl
      | some vs => rcases h : loadUnits files b vs with ⟨_ | o, e⟩ <;> simp [h]

/-- the parser of level 9 finishes exactly the files without import; on those it is the specification
    of depth 0 (the rules, no error) -/
theorem loadUnits_zero (files : Files) (us : List Unit') :
    loadUnits files 0 us =
      if noImp us then (some (inline files 0 us), missingOf files 0 us) else (none, []) := by
  induction us with
  | nil => rw [loadUnits]; rfl
  | cons u r ih =>
    cases u with
    | rule t => rw [loadUnits_rule, ih, noImp]; cases noImp r <;> rfl
    | imp f => rw [loadUnits]; rfl

theorem loadUnits_zero_imp (files : Files) {us : List Unit'} {g : String} (h : Unit'.imp g ∈ us) :
    (loadUnits files 0 us).1 = none := by
  induction us with
  | nil => cases h
  | cons u r ih =>
    cases u with
    | rule t => rw [loadUnits_rule, ih (by simpa using h)]; rfl
    | imp f => rw [loadUnits]

theorem loadUnits_out_append (files : Files) (b : Nat) (us1 us2 : List Unit') :
    ((loadUnits files (b + 1) (us1 ++ us2)).1).getD [] =
      ((loadUnits files (b + 1) us1).1).getD [] ++ ((loadUnits files (b + 1) us2).1).getD [] := by
  simp only [loadUnits_succ, inlineWith_append, Option.getD_some]

end Lessm.Term
