/-
  Cross-model consistency: embeddings of the smaller fragments into the larger models, projections
  of the results to a common observation, and the lemmas behind Lessm/Props/Cross.lean.

  The four evaluator models and what they share:

    Nest   rules + declarations (literal values); selectors are token lists handled by `identParse`
    Media  Nest + `@media`; same selector machinery, same declarations
    Vars   rules + declarations + variable definitions; values are token lists with references;
           selectors are OPAQUE string pieces collected along the path (no `&`, no comma lists, no
           combinators: a nested selector is its ancestors' pieces followed by its own)
    Mixin  rules + declarations + calls (+ definitions at top level); values as in Vars, selectors as
           in Nest (`identParse`); there are NO variable definitions: names are bound by mixin
           parameters only

  Consequences for the statements:
    * Nest -> Media and Nest -> Mixin need no restriction on selectors (same `identParse`);
    * Nest -> Vars and Vars -> Mixin are stated for `plainSel` selectors: the shapes on which
      `identParse` is plain descendant concatenation, which is all that a Vars path expresses;
    * Vars -> Mixin is stated for sheets without variable definitions and without `@{x}` in selectors
      (Mixin has neither).  References in values are allowed: they are unbound on both sides, and both
      sides report the same `unknownVar` error, the first one in evaluation order.

  Letters in the names: N = Nest, V = Vars, A = AtRule, P = the formatter model `Print` (the last two in
  `CrossAtLemmas` and `Props/CrossPrint`).  Mixin is X in the embeddings out of Nest (`embedNX…`) and M everywhere
  else (`embedVM`, `commonVM`, `obsM`, `toMN`, `toMV`, `resMV`, `declM`); Media is M only in `embedNM…` and behind
  A (`embedAM`, `commonAM`, `declAM`).  Source before target in `embed…`/`common…`, target first in `toMN`/`toMV`/
  `resMV`.  `declS`/`declV`/`declM` turn a declaration into the (property, String) / Vars / Mixin-text form.

-/
import Lessm.Props.C01
import Lessm.Lemmas.MediaLemmas
import Lessm.Lemmas.VarsLemmas
import Lessm.Lemmas.MixinLemmas

namespace Lessm.Cross
open Lessm.Sel

/-- one printed style rule: its selector list (token lists, as `identParse` produces them) and its
    declarations as `(property, value text)` -/
structure Obs where
  sels : List Sel
  decls : List (String × String)
deriving Repr, DecidableEq

/-- the selector a Vars path stands for: the pieces of the ancestors and the rule's own pieces, one
    descendant space between two levels -/
def joinPath : List (List String) → List String
  | [] => []
  | [p] => p
  | p :: q :: r => p ++ " " :: joinPath (q :: r)

/-- a Nest declaration as `(property, value text)` -/
def declS (d : Nest.Decl) : String × String := (d.prop, d.value)
/-- a declaration whose value is a list of strings (the output form of Vars) in Mixin's form
    `(property, value text)`: the strings concatenated, which is what `Mixin.valText` prints -/
def declM (d : String × List String) : String × String := (d.1, String.join d.2)

def obsN (o : Nest.OutRule) : Obs := ⟨o.sels, o.decls.map declS⟩
def obsV (o : Vars.OutRule) : Obs := ⟨[joinPath o.path], o.decls.map declM⟩
def obsM (o : Mixin.OutRule) : Obs := ⟨o.sels, o.decls⟩

/-- a Nest rule as a Media observation under the media context `ctx` (`[]`: outside every `@media`) -/
def tripleOf (ctx : List Media.Query) (o : Nest.OutRule) : Media.Triple := ⟨ctx, o.sels, o.decls⟩

/-- a token that `Identifier.parse` leaves alone: not `*`, not `,`, not `&`, not a combinator, not an
    encoded combinator `?c?` -/
def plainTok (t : Tok) : Bool :=
  !(t == "*" || t == "," || t == "&" || isComb t || isEncLike t)

/-- a selector of plain tokens, not empty, not ending in a blank (blanks inside are allowed: `.a .b`) -/
def plainSel (s : List Tok) : Bool :=
  !s.isEmpty && s.all plainTok && (s.getLast? != some " ")

mutual
/-- Nest into Vars: a literal value is one literal token, a selector token is a literal piece -/
def embedNVItem : Nest.Item → Vars.Item
  | .decl d => .decl d.prop [.lit d.value]
  | .rule sel body => .rule (sel.map Vars.STok.lit) (embedNV body)
def embedNV : List Nest.Item → List Vars.Item
  | [] => []
  | i :: is => embedNVItem i :: embedNV is
end

mutual
/-- Nest into Media: the identity on the shared constructors -/
def embedNMItem : Nest.Item → Media.Item
  | .decl d => .decl d
  | .rule sel body => .rule sel (embedNM body)
def embedNM : List Nest.Item → List Media.Item
  | [] => []
  | i :: is => embedNMItem i :: embedNM is
end

mutual
/-- Nest into Mixin, inside a rule -/
def embedNXItem : Nest.Item → Mixin.Item
  | .decl d => .decl d.prop [.lit d.value]
  | .rule sel body => .rule sel (embedNXItems body)
def embedNXItems : List Nest.Item → List Mixin.Item
  | [] => []
  | i :: is => embedNXItem i :: embedNXItems is
end

/-- Nest into Mixin, top level: `Mixin.Top` has no declarations; a top-level declaration prints
    nothing in Nest either -/
def embedNX : List Nest.Item → List Mixin.Top
  | [] => []
  | .decl _ :: r => embedNX r
  | .rule sel body :: r => .rule sel (embedNXItems body) :: embedNX r

/-- the text of a selector piece (an interpolation is outside the common fragment, see `commonVM`) -/
def pieceText : Vars.STok → Tok
  | .lit s => s
  | .interp n => "@{" ++ n ++ "}"

def selToks (sel : List Vars.STok) : List Tok := sel.map pieceText

mutual
/-- Vars into Mixin, inside a rule (a variable definition is outside the common fragment and has no
    image: see `commonVM`) -/
def embedVMItem : Vars.Item → List Mixin.Item
  | .decl p v => [.decl p v]
  | .vdef _ _ => []
  | .rule sel body => [.rule (selToks sel) (embedVMItems body)]
def embedVMItems : List Vars.Item → List Mixin.Item
  | [] => []
  | i :: is => embedVMItem i ++ embedVMItems is
end

/-- Vars into Mixin, top level (only rules have an image) -/
def embedVM : List Vars.Item → List Mixin.Top
  | [] => []
  | .rule sel body :: r => .rule (selToks sel) (embedVMItems body) :: embedVM r
  | _ :: r => embedVM r

mutual
def plainItemN : Nest.Item → Bool
  | .decl _ => true
  | .rule sel body => plainSel sel && plainSheetN body
def plainSheetN : List Nest.Item → Bool
  | [] => true
  | i :: is => plainItemN i && plainSheetN is
end

def noInterp (sel : List Vars.STok) : Bool :=
  sel.all fun t => match t with | .lit _ => true | .interp _ => false

mutual
def commonItemVM : Vars.Item → Bool
  | .decl _ _ => true
  | .vdef _ _ => false
  | .rule sel body => noInterp sel && plainSel (selToks sel) && commonItemsVM body
def commonItemsVM : List Vars.Item → Bool
  | [] => true
  | i :: is => commonItemVM i && commonItemsVM is
end

def isRuleV : Vars.Item → Bool
  | .rule _ _ => true
  | _ => false

/-- the common fragment of Vars and Mixin -/
def commonVM (sheet : List Vars.Item) : Bool := sheet.all isRuleV && commonItemsVM sheet

mutual
/-- nesting depth of rules (a declaration counts 1): what `Mixin.evalItems` needs as `gas` -/
def nestingN : Nest.Item → Nat
  | .decl _ => 1
  | .rule _ body => nestingNList body + 1
def nestingNList : List Nest.Item → Nat
  | [] => 0
  | i :: is => max (nestingN i) (nestingNList is)
end

mutual
def nestingV : Vars.Item → Nat
  | .decl _ _ => 1
  | .vdef _ _ => 1
  | .rule _ body => nestingVList body + 1
def nestingVList : List Vars.Item → Nat
  | [] => 0
  | i :: is => max (nestingV i) (nestingVList is)
end

/-! ### selectors: `identParse` on plain selectors is descendant concatenation -/

theorem plainTok_iff (t : Tok) : plainTok t = true ↔
    t ≠ "*" ∧ t ≠ "," ∧ t ≠ "&" ∧ isComb t = false ∧ isEncLike t = false := by
  simp [plainTok, and_assoc]

theorem encode_plain (toks : List Tok) (h : ∀ t ∈ toks, plainTok t = true) :
    encode toks = [toks] :=
  Nest.C01_simple_selector toks fun t ht =>
    have ⟨hstar, hcomma, _, hcomb, _⟩ := (plainTok_iff t).mp (h t ht)
    ⟨hstar, hcomb, hcomma⟩

theorem pairwiseFilter_id (l : Sel) (he : ∀ t ∈ l, isEncLike t = false) (hl : l.getLast? ≠ some " ") :
    pairwiseFilter l = l := by
  fun_induction pairwiseFilter l with
  -- the cases in the order of the definition: `[]`; `[" "]`, dropped (excluded by `hl`); `[t]`, kept;
  -- a blank before an encoded `u`, dropped (no `u` is encoded); `t` kept
  | case1 => rfl
  | case2 t ht => exact absurd (by rw [eq_of_beq ht]; rfl) hl
  | case3 t ht => rfl
  | case4 t u rest hc ih => rw [he u (by simp), Bool.and_false] at hc; cases hc
  | case5 t u rest hc ih =>
    rw [ih (fun x hx => he x (List.mem_cons_of_mem _ hx)) (by rwa [List.getLast?_cons_cons] at hl)]

/-- a parent selector that descendant concatenation can extend -/
def GoodSel (p : Sel) : Prop := p ≠ [] ∧ p.getLast? ≠ some " " ∧ ∀ t ∈ p, isEncLike t = false

theorem plainSel_iff (s : List Tok) : plainSel s = true ↔
    s ≠ [] ∧ (∀ t ∈ s, plainTok t = true) ∧ s.getLast? ≠ some " " := by
  simp [plainSel, and_assoc]

theorem GoodSel_of_plain {s : List Tok} (h : plainSel s = true) : GoodSel s := by
  obtain ⟨h1, h2, h3⟩ := (plainSel_iff s).mp h
  exact ⟨h1, h3, fun t ht => have ⟨_, _, _, _, henc⟩ := (plainTok_iff t).mp (h2 t ht); henc⟩

theorem GoodSel_append {p s : Sel} (hp : GoodSel p) (hs : GoodSel s) : GoodSel (p ++ " " :: s) := by
  obtain ⟨_, _, p3⟩ := hp
  obtain ⟨s1, s2, s3⟩ := hs
  refine ⟨by simp, ?_, fun t ht => ?_⟩
  · obtain ⟨a, r, rfl⟩ := List.exists_cons_of_ne_nil s1
    rw [List.getLast?_append, List.getLast?_cons_cons]
    rw [List.getLast?_cons] at s2 ⊢
    exact s2
  · rcases List.mem_append.mp ht with h | h
    · exact p3 t h
    · rcases List.mem_cons.mp h with rfl | h
      · decide
      · exact s3 t h

theorem identParse_none_plain {s : List Tok} (h : plainSel s = true) : identParse none s = [s] := by
  obtain ⟨_, h2, _⟩ := (plainSel_iff s).mp h
  obtain ⟨_, hlast, henc⟩ := GoodSel_of_plain h
  simp only [identParse, encode_plain s h2, root, List.map_cons, List.map_nil,
    pairwiseFilter_id s henc hlast]

theorem identParse_some_plain {p : Sel} {s : List Tok} (hp : GoodSel p) (h : plainSel s = true) :
    identParse (some [p]) s = [p ++ " " :: s] := by
  obtain ⟨_, h2, _⟩ := (plainSel_iff s).mp h
  obtain ⟨_, hlast, henc⟩ := GoodSel_append hp (GoodSel_of_plain h)
  obtain ⟨hpne, hplast, _⟩ := hp
  have h0 : countAmp s = 0 :=
    List.count_eq_zero.mpr fun hm => have ⟨_, _, hamp, _, _⟩ := (plainTok_iff "&").mp (h2 "&" hm); hamp rfl
  have hr : rootOne [p] s = [p ++ " " :: s] :=
    Nest.C02_desc [p] s h0 fun q hq => by rw [List.mem_singleton.mp hq]; exact ⟨hpne, hplast⟩
  simp only [identParse, encode_plain s h2, root, List.flatMap_cons, List.flatMap_nil,
    List.append_nil, hr, List.map_cons, List.map_nil, pairwiseFilter_id _ henc hlast]

theorem joinPath_snoc (path : List (List String)) (s : List String) (h : path ≠ []) :
    joinPath (path ++ [s]) = joinPath path ++ " " :: s := by
  induction path with
  | nil => exact absurd rfl h
  | cons p r ih =>
    cases r with
    | nil => simp [joinPath]
    | cons q r =>
      have ih := ih (List.cons_ne_nil q r)
      simp only [List.cons_append] at ih ⊢
      simp only [joinPath, ih, List.append_assoc, List.cons_append]

/-- the Vars path `path` and the Nest parent `parent` denote the same enclosing selector -/
def Rel (path : List (List String)) (parent : Option (List Sel)) : Prop :=
  (path = [] ∧ parent = none) ∨
  (path ≠ [] ∧ parent = some [joinPath path] ∧ GoodSel (joinPath path))

theorem identParse_rel {path : List (List String)} {parent : Option (List Sel)} {s : List Tok}
    (hr : Rel path parent) (h : plainSel s = true) :
    identParse parent s = [joinPath (path ++ [s])] ∧
      Rel (path ++ [s]) (some [joinPath (path ++ [s])]) := by
  rcases hr with ⟨rfl, rfl⟩ | ⟨hne, rfl, hg⟩
  · refine ⟨by simpa [joinPath] using identParse_none_plain h, Or.inr ⟨by simp, rfl, ?_⟩⟩
    simpa [joinPath] using GoodSel_of_plain h
  · have e := joinPath_snoc path s hne
    refine ⟨by rw [e]; exact identParse_some_plain hg h, Or.inr ⟨by simp, rfl, ?_⟩⟩
    rw [e]
    exact GoodSel_append hg (GoodSel_of_plain h)

theorem join_singleton (s : String) : String.join [s] = s := by
  simp [String.join]

/-! ### X1: Nest into Vars -/

theorem resolveSel_lits (sc : Vars.Scope) (sel : List String) :
    Vars.resolveSel sc (sel.map Vars.STok.lit) = .ok sel := by
  induction sel with
  | nil => rfl
  | cons s r ih => simp only [List.map_cons, Vars.resolveSel, ih]; rfl

mutual
/-- what pass G makes of an embedded Nest tree: every selector is resolved at grammar time -/
def embedGItem : Nest.Item → Vars.GItem
  | .decl d => .decl d.prop [.lit d.value]
  | .rule sel body => .rule (sel.map Vars.STok.lit) (some sel) (embedG body)
def embedG : List Nest.Item → List Vars.GItem
  | [] => []
  | i :: is => embedGItem i :: embedG is
end

mutual
theorem passG_embedNV (gs : Vars.Scope) : ∀ i : Nest.Item,
    Vars.passG gs (embedNVItem i) = (gs, embedGItem i)
  | .decl d => by simp [embedNVItem, embedGItem, Vars.passG]
  | .rule sel body => by
      simp only [embedNVItem, embedGItem, Vars.passG, resolveSel_lits,
        passGList_embedNV ([] :: gs) body]
theorem passGList_embedNV (gs : Vars.Scope) : ∀ is : List Nest.Item,
    Vars.passGList gs (embedNV is) = (gs, embedG is)
  | [] => by simp [embedNV, embedG, Vars.passGList]
  | i :: is => by
      simp only [embedNV, embedG, Vars.passGList, passG_embedNV gs i, passGList_embedNV gs is]
end

def declV (d : Nest.Decl) : String × List String := (d.prop, [d.value])

def ownV : Nest.Item → List (String × List String)
  | .decl d => [declV d]
  | .rule _ _ => []

theorem srcDecls_cons_map (i : Nest.Item) (is : List Nest.Item) :
    (Nest.srcDecls (i :: is)).map declV = ownV i ++ (Nest.srcDecls is).map declV := by
  cases i <;> simp [Nest.srcDecls, ownV]

mutual
/-- the flattening of a Nest tree in the vocabulary of Vars (paths instead of combined selectors) -/
def flatV (path : List (List String)) : Nest.Item → List Vars.OutRule
  | .decl _ => []
  | .rule sel body =>
      (if Nest.srcDecls body = [] then [] else [⟨path ++ [sel], (Nest.srcDecls body).map declV⟩])
        ++ flatVList (path ++ [sel]) body
def flatVList (path : List (List String)) : List Nest.Item → List Vars.OutRule
  | [] => []
  | i :: is => flatV path i ++ flatVList path is
end

theorem expand_lit1 (es : Vars.Scope) (fuel : Nat) (s : String) :
    Vars.expand es fuel [.lit s] = .ok [.lit s] :=
  Mixin.expand_of_noRef es fuel _ rfl

mutual
theorem passEItem_embedG (fuel : Nat) (es : Vars.Scope) (path : List (List String)) :
    ∀ i : Nest.Item, Vars.passEItem fuel es path (embedGItem i) = .ok (es, ownV i, flatV path i)
  | .decl d => by
      simp only [embedGItem, Vars.passEItem, expand_lit1, ownV, flatV, declV]
      rfl
  | .rule sel body => by
      simp only [embedGItem, Vars.passEItem, ownV, flatV, bind, Except.bind, pure, Except.pure,
        passEList_embedG fuel ([] :: es) (path ++ [sel]) body]
      by_cases h : Nest.srcDecls body = [] <;> simp [h]
theorem passEList_embedG (fuel : Nat) (es : Vars.Scope) (path : List (List String)) :
    ∀ is : List Nest.Item, Vars.passEList fuel es path (embedG is)
      = .ok (es, (Nest.srcDecls is).map declV, flatVList path is)
  | [] => by simp [embedG, Vars.passEList, Nest.srcDecls, flatVList, pure, Except.pure]
  | i :: is => by
      simp only [embedG, Vars.passEList, bind, Except.bind, pure, Except.pure,
        passEItem_embedG fuel es path i, passEList_embedG fuel es path is, srcDecls_cons_map, flatVList]
end

mutual
theorem obs_flatV {path : List (List String)} {parent : Option (List Sel)} (hr : Rel path parent) :
    ∀ i : Nest.Item, plainItemN i = true → (flatV path i).map obsV = (Nest.flat parent i).map obsN
  | .decl _, _ => by simp [flatV, Nest.flat]
  | .rule sel body, h => by
      simp only [plainItemN, Bool.and_eq_true] at h
      obtain ⟨h1, h2⟩ := identParse_rel hr h.1
      simp only [flatV, Nest.flat, h1, List.map_append, obs_flatVList h2 body h.2]
      by_cases hd : Nest.srcDecls body = [] <;> simp [hd, obsV, obsN, declV, declM, declS]
theorem obs_flatVList {path : List (List String)} {parent : Option (List Sel)} (hr : Rel path parent) :
    ∀ is : List Nest.Item, plainSheetN is = true →
      (flatVList path is).map obsV = (Nest.flatList parent is).map obsN
  | [], _ => by simp [flatVList, Nest.flatList]
  | i :: is, h => by
      simp only [plainSheetN, Bool.and_eq_true] at h
      simp only [flatVList, Nest.flatList, List.map_append, obs_flatV hr i h.1, obs_flatVList hr is h.2]
end

/-! ### X2: Nest into Media -/

theorem declsOf_embedNM (is : List Nest.Item) : Media.declsOf (embedNM is) = Nest.srcDecls is := by
  induction is with
  | nil => rfl
  | cons i r ih => cases i <;> simp [embedNM, embedNMItem, Media.declsOf, Nest.srcDecls, ih]

mutual
/-- nothing bubbles out of a media-free tree -/
theorem media_none_item (p : Option (List Sel)) : ∀ i : Nest.Item,
    (Media.evalItem p (embedNMItem i)).filter (·.isMedia) = []
  | .decl d => by simp [embedNMItem, Media.evalItem]
  | .rule sel body => by
      rw [embedNMItem, Media.evalItem_rule_B, media_none_list (some (identParse p sel)) body]
      rfl
theorem media_none_list (p : Option (List Sel)) : ∀ is : List Nest.Item,
    (Media.evalList p (embedNM is)).filter (·.isMedia) = []
  | [] => by simp [embedNM, Media.evalList]
  | i :: is => by
      simp only [embedNM, Media.evalList, List.filter_append, media_none_item p i,
        media_none_list p is, List.append_nil]
end

mutual
theorem media_obs_item (ctx : List Media.Query) (p : Option (List Sel)) : ∀ i : Nest.Item,
    Media.obsList ctx ((Media.evalItem p (embedNMItem i)).filter (fun b => !b.isMedia))
      = (Nest.flat p i).map (tripleOf ctx)
  | .decl d => by simp [embedNMItem, Media.evalItem, Media.obsList, Nest.flat]
  | .rule sel body => by
      rw [embedNMItem, Media.evalItem_rule_U, Media.obsList_optBlock]
      simp only [Media.selfRule, Media.obs, Nest.flat, List.map_append, declsOf_embedNM,
        media_obs_list ctx (some (identParse p sel)) body]
      by_cases h : Nest.srcDecls body = [] <;> simp [h, tripleOf]
theorem media_obs_list (ctx : List Media.Query) (p : Option (List Sel)) : ∀ is : List Nest.Item,
    Media.obsList ctx ((Media.evalList p (embedNM is)).filter (fun b => !b.isMedia))
      = (Nest.flatList p is).map (tripleOf ctx)
  | [] => by simp [embedNM, Media.evalList, Media.obsList, Nest.flatList]
  | i :: is => by
      simp only [embedNM, Media.evalList, List.filter_append, Media.obsList_append, Nest.flatList,
        List.map_append, media_obs_item ctx p i, media_obs_list ctx p is]
end

theorem filter_not_self {α : Type} {p : α → Bool} {l : List α} (h : l.filter p = []) :
    l.filter (fun a => !p a) = l :=
  List.filter_eq_self.mpr fun a ha => by simpa using List.filter_eq_nil_iff.mp h a ha

/-! ### X5: Nest into Mixin -/

def toMN (o : Nest.OutRule) : Mixin.OutRule := ⟨o.sels, o.decls.map declS⟩

/-- what a rule contributes, in the form `Mixin.evalItems` builds it: `own ++ out1` -/
theorem toMN_flat_rule (parent : Option (List Sel)) (sel : List Tok) (body : List Nest.Item) :
    (Nest.flat parent (.rule sel body)).map toMN =
      (if ((Nest.srcDecls body).map declS).isEmpty then []
        else [⟨identParse parent sel, (Nest.srcDecls body).map declS⟩]) ++
      (Nest.flatList (some (identParse parent sel)) body).map toMN := by
  by_cases hd : Nest.srcDecls body = [] <;> simp [Nest.flat, hd, toMN]

theorem evalItems_embedNX (tbl : Mixin.Table) : ∀ (gas depth : Nat) (inExp : Bool) (sc : Vars.Scope)
    (me : List Sel) (items : List Nest.Item), nestingNList items ≤ gas →
    Mixin.evalItems tbl gas depth inExp sc me (embedNXItems items)
      = .ok ((Nest.srcDecls items).map declS, (Nest.flatList (some me) items).map toMN) := by
  intro gas
  induction gas with
  | zero =>
    intro depth inExp sc me items h
    cases items with
    | nil => exact Mixin.evalItems_nil ..
    | cons it rest =>
      rw [nestingNList, Nat.max_le] at h
      cases it <;> simp [nestingN] at h
  | succ gas ih =>
    intro depth inExp sc me items
    induction items with
    | nil => exact fun _ => Mixin.evalItems_nil ..
    | cons it rest ihr =>
      intro h
      rw [nestingNList, Nat.max_le] at h
      cases it with
      | decl d =>
        rw [embedNXItems, embedNXItem, Mixin.evalItems_decl, ihr h.2, expand_lit1]
        -- all by computation, but for the text of the one-token value
        exact congrArg (fun s => Except.ok ((d.prop, s) :: _, _)) (join_singleton d.value)
      | rule sel body =>
        rw [embedNXItems, embedNXItem, Mixin.evalItems_rule, ihr h.2,
          ih depth inExp _ _ body (Nat.le_of_succ_le_succ h.1), Nest.flatList, List.map_append,
          toMN_flat_rule]
        rfl

theorem go_embedNX (tbl : Mixin.Table) (gas : Nat) (ts : List Nest.Item) (h : nestingNList ts ≤ gas + 1) :
    Mixin.compile.go gas tbl (embedNX ts) = .ok ((Nest.flatList none ts).map toMN) := by
  induction ts with
  | nil => rfl
  | cons i r ih =>
    rw [nestingNList, Nat.max_le] at h
    cases i with
    | decl d => rw [embedNX, Nest.flatList, Nest.flat, List.nil_append, ih h.2]
    | rule sel body =>
      rw [embedNX, Mixin.compile.go, ih h.2, Nest.flatList, List.map_append, toMN_flat_rule,
        evalItems_embedNX tbl gas 0 false _ _ body (Nat.le_of_succ_le_succ h.1)]
      rfl

theorem obsM_toMN (o : Nest.OutRule) : obsM (toMN o) = obsN o := rfl

/-! ### X3: Vars into Mixin -/

mutual
/-- what pass G makes of a sheet of the common fragment -/
def gOfItem : Vars.Item → Vars.GItem
  | .decl p v => .decl p v
  | .vdef n v => .vdef n v
  | .rule sel body => .rule sel (some (selToks sel)) (gOf body)
def gOf : List Vars.Item → List Vars.GItem
  | [] => []
  | i :: is => gOfItem i :: gOf is
end

theorem resolveSel_noInterp (sc : Vars.Scope) (sel : List Vars.STok) (h : noInterp sel = true) :
    Vars.resolveSel sc sel = .ok (selToks sel) := by
  induction sel with
  | nil => rfl
  | cons t r ih =>
    rw [noInterp, List.all_cons, Bool.and_eq_true] at h
    cases t with
    | lit s => simp only [Vars.resolveSel, ih h.2]; rfl
    | interp n => cases h.1

mutual
theorem passG_common (gs : Vars.Scope) : ∀ i : Vars.Item, commonItemVM i = true →
    Vars.passG gs i = (gs, gOfItem i)
  | .decl p v, _ => by simp [gOfItem, Vars.passG]
  | .vdef n v, h => by simp [commonItemVM] at h
  | .rule sel body, h => by
      simp only [commonItemVM, Bool.and_eq_true] at h
      simp only [gOfItem, Vars.passG, resolveSel_noInterp _ sel h.1.1,
        passGList_common ([] :: gs) body h.2]
theorem passGList_common (gs : Vars.Scope) : ∀ is : List Vars.Item, commonItemsVM is = true →
    Vars.passGList gs is = (gs, gOf is)
  | [], _ => by simp [gOf, Vars.passGList]
  | i :: is, h => by
      simp only [commonItemsVM, Bool.and_eq_true] at h
      simp only [gOf, Vars.passGList, passG_common gs i h.1, passGList_common gs is h.2]
end

def toMV (o : Vars.OutRule) : Mixin.OutRule := ⟨[joinPath o.path], o.decls.map declM⟩

/-- a result of Vars' pass E in the vocabulary of `Mixin.evalItems` -/
def resMV (r : Except Vars.Err (Vars.Scope × List (String × List String) × List Vars.OutRule)) :
    Except Mixin.Err (List (String × String) × List Mixin.OutRule) :=
  Mixin.liftV r >>= fun x => pure (x.2.1.map declM, x.2.2.map toMV)

theorem identParse_getD (parent : Option (List Sel)) (toks : List Tok) :
    identParse (some (parent.getD [])) toks = identParse parent toks := by
  cases parent <;> rfl

theorem evalItems_embedVM (tbl : Mixin.Table) (fuel : Nat) (hf : 1 ≤ fuel) :
    ∀ (gas depth : Nat) (inExp : Bool) (sc : Vars.Scope) (path : List (List String))
      (parent : Option (List Sel)) (items : List Vars.Item),
      Mixin.LitScope sc = true → Rel path parent →
      commonItemsVM items = true → nestingVList items ≤ gas →
      Mixin.evalItems tbl gas depth inExp sc (parent.getD []) (embedVMItems items)
        = resMV (Vars.passEList fuel sc path (gOf items)) := by
  obtain ⟨f, rfl⟩ := Nat.exists_eq_add_of_le' hf
  intro gas
  induction gas with
  | zero =>
    intro depth inExp sc path parent items _ _ _ h
    cases items with
    | nil => exact Mixin.evalItems_nil ..
    | cons it rest =>
      rw [nestingVList, Nat.max_le] at h
      cases it <;> simp [nestingV] at h
  | succ gas ih =>
    intro depth inExp sc path parent items
    induction items with
    | nil => intros; exact Mixin.evalItems_nil ..
    | cons it rest ihr =>
      intro hsc hr hc h
      rw [nestingVList, Nat.max_le] at h
      simp only [commonItemsVM, Bool.and_eq_true] at hc
      have hrest := ihr hsc hr hc.2 h.2
      -- both sides obey the same equation; pass E is brought to its form by the monad laws
      cases it with
      | vdef n v => cases hc.1
      | decl p v =>
        -- in a scope of literal values the first round decides: all positive fuels agree (`evalItems` expands
        -- with fuel 64 = 63 + 1, Vars here with `fuel = f + 1`)
        rw [embedVMItems, embedVMItem, List.singleton_append, Mixin.evalItems_decl, hrest,
          Mixin.expand_eq_substOnce hsc 63, ← Mixin.expand_eq_substOnce hsc f]
        simp only [resMV, gOf, gOfItem, Vars.passEList_cons, Vars.passEItem, Mixin.liftV_bind,
          Mixin.liftV_pure, bind_assoc, pure_bind]
        rfl
      | rule sel body =>
        have hc1 := hc.1
        simp only [commonItemVM, Bool.and_eq_true] at hc1
        obtain ⟨hp, hr'⟩ := identParse_rel hr hc1.1.2
        have hbody : Mixin.evalItems tbl gas depth inExp ([] :: sc) [joinPath (path ++ [selToks sel])]
            (embedVMItems body) = _ :=
          ih depth inExp ([] :: sc) _ (some _) body (by rw [Mixin.LitScope_cons, hsc]; rfl) hr' hc1.2
            (Nat.le_of_succ_le_succ h.1)
        rw [embedVMItems, embedVMItem, List.singleton_append, Mixin.evalItems_rule, hrest,
          identParse_getD, hp, hbody]
        simp only [resMV, gOf, gOfItem, Vars.passEList_cons, Vars.passEItem, Mixin.liftV_bind,
          Mixin.liftV_pure, bind_assoc, pure_bind]
        -- `map toMV` over the rules as pass E assembles them
        simp only [List.nil_append, List.map_append, apply_ite (List.map toMV), List.map_nil,
          List.map_cons, List.isEmpty_map, toMV]

theorem itemsOf_embedVM (sheet : List Vars.Item) (h : ∀ i ∈ sheet, isRuleV i = true) :
    Mixin.itemsOf (embedVM sheet) = embedVMItems sheet := by
  induction sheet with
  | nil => rfl
  | cons i r ih =>
    have hi := h i List.mem_cons_self
    cases i with
    | rule sel body => rw [embedVM, Mixin.itemsOf, ih fun i hi => h i (List.mem_cons_of_mem _ hi)]; rfl
    | _ => cases hi

theorem commonVM_iff (sheet : List Vars.Item) : commonVM sheet = true ↔
    (∀ i ∈ sheet, isRuleV i = true) ∧ commonItemsVM sheet = true := by
  simp [commonVM]

theorem compile_embedVM (gas fuel : Nat) (sheet : List Vars.Item) (hf : 1 ≤ fuel)
    (hc : commonVM sheet = true) (hg : nestingVList sheet ≤ gas + 1) :
    Mixin.compile gas (embedVM sheet)
      = Mixin.liftV ((Vars.compile fuel sheet).map (List.map toMV)) := by
  obtain ⟨h1, h2⟩ := (commonVM_iff sheet).mp hc
  have := evalItems_embedVM (Mixin.buildTable (embedVM sheet)) fuel hf _ 0 false [[]] [] none sheet
    rfl (Or.inl ⟨rfl, rfl⟩) h2 hg
  -- `this` speaks of `none.getD []` where the goal has `[]`: restated so that `rw` finds it
  rw [Mixin.compile_eq_go, Mixin.go_eq_evalItems, itemsOf_embedVM sheet h1, show
    Mixin.evalItems _ (gas + 1) 0 false [[]] [] (embedVMItems sheet) = _ from this]
  simp only [Vars.compile, passGList_common [[]] sheet h2, bind, Except.bind, pure, Except.pure]
  cases Vars.passEList fuel [[]] [] (gOf sheet) with
  | error e => cases e <;> rfl
  | ok r => rfl

theorem obsM_toMV (o : Vars.OutRule) : obsM (toMV o) = obsV o := rfl

/-! ### X4: the side condition of C03 holds on the common fragment -/

/-- nothing is defined on the common fragment, so both scoping disciplines hold of every list -/
theorem disciplines_common (defs : List (String × Vars.Value)) (is : List Vars.Item)
    (h : commonItemsVM is = true) : Vars.definedNames is = [] ∧ Vars.blockOKAux defs is = true ∧
      ∀ before, Vars.topOKAux defs before is = true := by
  induction is with
  | nil => exact ⟨rfl, rfl, fun _ => rfl⟩
  | cons i r ih =>
    simp only [commonItemsVM, Bool.and_eq_true] at h
    cases i with
    | vdef n v => cases h.1
    | _ => simp [Vars.definedNames, Vars.blockOKAux, Vars.topOKAux, ih h.2]

mutual
theorem blocksOK_common (defs : List (String × Vars.Value)) : ∀ i : Vars.Item,
    commonItemVM i = true → Vars.blocksOK defs i = true
  | .decl _ _, _ => by simp [Vars.blocksOK]
  | .vdef _ _, _ => by simp [Vars.blocksOK]
  | .rule s b, h => by
      simp only [commonItemVM, Bool.and_eq_true] at h
      simp [Vars.blocksOK, disciplines_common defs b h.2, blocksOKList_common defs b h.2]
theorem blocksOKList_common (defs : List (String × Vars.Value)) : ∀ is : List Vars.Item,
    commonItemsVM is = true → Vars.blocksOKList defs is = true
  | [], _ => rfl
  | i :: r, h => by
      simp only [commonItemsVM, Bool.and_eq_true] at h
      simp [Vars.blocksOKList, blocksOK_common defs i h.1, blocksOKList_common defs r h.2]
end

theorem VarOK_common (sheet : List Vars.Item) (hc : commonVM sheet = true) :
    Vars.VarOK sheet = true := by
  obtain ⟨h1, h2⟩ := (commonVM_iff sheet).mp hc
  simp only [Vars.VarOK, Bool.and_eq_true, (disciplines_common _ sheet h2).2.2,
    blocksOKList_common _ sheet h2, and_true, List.all_eq_true]
  intro i hi
  cases i with
  | decl p v => exact absurd (h1 _ hi) (by simp [isRuleV])
  | _ => rfl

end Lessm.Cross
