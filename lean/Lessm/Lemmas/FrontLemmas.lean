/-
  Lemmas that tie the three front-end models together:

    * the character-level stream `Lessm.Lex0.front` (what the parser gets from TEXT) and the type-level token filter
      `Lessm.Lex.filterFrom` of C12: `filterFromE` (the filter with the escape exception), `filterFromE_is_filterFrom`,
      `front_is_filterE`, and what one evaluated raw stream settles about a text (`noFlag_of_types`, `frontEnd_types_of_raw`);
    * `front`/`frontEnd` and the validating LR driver of C15 (`tokIds`, `Accepts`, `acceptsB`);
    * brace (parenthesis, string, escape) weights of the regenerated grammar read as token counts (`sumT_counts`,
      `sumT_pair`, `brace_weight_is_count`, `paren_sum`, `counts_of_balanced`).

  The theorems of C15 on text that are proved from these are in `Lessm/Props/C15Text.lean`.
-/
import Lessm.Lemmas.Lex0Lemmas
import Lessm.Lemmas.CfgLemmas
import Lessm.Model.Lex
import Lessm.Gen.Grammar

namespace Lessm.Lex

/-- `filterFrom` on flagged types: the flag of a token says "the lexer is in an escape state right after it"; a `}`
    with the flag set gets no `;` injected (lexer.py: `self.lexer.lexstate not in ('escapequotes', 'escapeapostrophe')`).
    With all flags `false` this is `filterFrom`. -/
def filterFromE (sig : List Ty) : Option Ty → List (Ty × Bool) → List Ty
  | _, [] => []
  | last, (t, e) :: ts =>
      if t == tWs && (match last with | none => true | some l => !sig.contains l) then
        filterFromE sig last ts
      else if t == tBclose && (match last with
            | none => false
            | some l => l != tBopen && l != tBclose && l != tSemi) && !e then
        tSemi :: tBclose :: filterFromE sig (some tSemi) ts
      else
        t :: filterFromE sig (some t) ts

end Lessm.Lex

namespace Lessm.Lex0

theorem filterFromE_is_filterFrom (sig : List String) (last : Option String) (l : List (String × Bool))
    (h : ∀ p ∈ l, p.1 = "t_bclose" → p.2 = false) :
    Lessm.Lex.filterFromE sig last l = Lessm.Lex.filterFrom sig last (l.map (·.1)) := by
  induction l generalizing last with
  | nil => rfl
  | cons p l ih =>
    obtain ⟨t, e⟩ := p
    have ih := fun last => ih last fun p hp => h p (List.mem_cons_of_mem _ hp)
    -- `show` unfolds one step of `filterFromE` and of `filterFrom` (by `rfl`), so that `rw [ih]` reaches the three
    -- recursive calls; after that the sides differ by `&& !e` in the test for `}`
    show (if _ then _ else if _ then _ else _) = (if _ then _ else if _ then _ else _)
    rw [ih, ih, ih]
    cases e with
    | false => rw [Bool.not_false, Bool.and_true]; rfl
    | true =>
      have ht : (t == Lex.tBclose) = false :=
        beq_false_of_ne fun ht => Bool.noConfusion (h _ (List.mem_cons_self ..) ht)
      simp only [ht, Bool.false_and]
      rfl

end Lessm.Lex0

namespace Lessm.Lex

theorem filterFromE_false (sig : List Ty) (last : Option Ty) (ts : List Ty) :
    filterFromE sig last (ts.map (fun t => (t, false))) = filterFrom sig last ts := by
  rw [Lessm.Lex0.filterFromE_is_filterFrom]
  · simp [Function.comp_def]
  · intro p hp _
    obtain ⟨t, -, rfl⟩ := List.mem_map.mp hp
    rfl

end Lessm.Lex

namespace Lessm.Lex0
open Lessm.Rx

/-- one step of `filterFromE` on a token of the loop, in the vocabulary of `front_tok` -/
theorem filterFromE_tok (sig : List String) (last : Option String) (t : Tok) (st' : LState)
    (ts : List (String × Bool)) :
    Lex.filterFromE sig last ((t.type, escFlag st') :: ts) =
      if wsDrop sig last t then Lex.filterFromE sig last ts
      else if needSemi last t st' then "t_semicolon" :: "t_bclose" :: Lex.filterFromE sig (some "t_semicolon") ts
      else t.type :: Lex.filterFromE sig (some t.type) ts := by
  rfl

/-- **F1 (general) `front_is_filterE`**: the types of the tokens `front` hands out are `filterFromE` — `filterFrom` with
    the one exception it does not know, "no `;` before a `}` lexed inside `~"…"` / `~'…'`" — applied to the flagged types
    of `rawUnderF`. No hypothesis. -/
theorem front_is_filterE (tb : Tables) (sig : List String) (last : Option String) (st : LState) (s : List Char) :
    (front tb sig last st s).toks.map (·.type)
      = Lessm.Lex.filterFromE sig last ((rawUnderF tb sig last st s).map (fun p => (p.1.type, p.2))) := by
  have h := front_fronts tb sig last st s
  generalize front tb sig last st s = r, rawUnderF tb sig last st s = raw at h
  induction h with
  | nil | illegal | stuck => rfl
  | comment _ _ ih => exact ih
  | drop _ hws _ ih =>
    rw [List.map_cons, filterFromE_tok, hws, ih]
    rfl
  | semi _ hws hsemi _ ih =>
    rw [List.map_cons, filterFromE_tok, hws, hsemi, FRes.toks_prepend, List.map_append, ih,
      ← (needSemi_eq_true.mp hsemi).1]
    rfl
  | emit _ hws hsemi _ ih =>
    rw [List.map_cons, filterFromE_tok, hws, hsemi, FRes.toks_prepend, List.map_append, ih]
    rfl

/-! what one evaluated raw stream (types and flags) settles about a text without lexing it again -/

theorem noFlag_of_types {raw : List (Tok × Bool)} {l : List (String × Bool)}
    (h : raw.map (fun p => (p.1.type, p.2)) = l) (hl : ∀ q ∈ l, q.1 = "t_bclose" → q.2 = false) :
    ∀ p ∈ raw, p.1.type = "t_bclose" → p.2 = false :=
  fun p hp => hl (p.1.type, p.2) (h ▸ List.mem_map_of_mem hp)

theorem rawUnder_types_of_raw {tb : Tables} {sig : List String} {last : Option String} {st : LState} {s : List Char}
    {l : List (String × Bool)} (h : (rawUnderF tb sig last st s).map (fun p => (p.1.type, p.2)) = l) :
    (rawUnder tb sig last st s).map (·.type) = l.map (·.1) := by
  rw [← h, rawUnder, List.map_map, List.map_map]
  rfl

theorem frontEnd_types_of_raw {tb : Tables} {sig : List String} {text : String} {l : List (String × Bool)}
    (h : (rawUnderF tb sig none {} text.toList).map (fun p => (p.1.type, p.2)) = l) :
    (frontEnd tb sig text).toks.map (·.type) = Lessm.Lex.filterFromE sig none l := by
  rw [frontEnd, front_is_filterE, h]

/-- numbers of the token types in the regenerated grammar (a type that is no terminal gets `terminals.length`) -/
def tokIds (ts : List Tok) : List Nat := ts.map (fun t => Lessm.Gen.terminals.idxOf t.type)

/-- the text is lexed to the end, is not empty of tokens (lesscpy does not call the parser's tables on nothing), and
    the validating driver accepts its token stream with the given tables -/
def Accepts (tb : Tables) (sig : List String) (action goto : Lessm.LR.Table) (text : String) : Prop :=
  ∃ ts, frontEnd tb sig text = .ok ts ∧ ts ≠ [] ∧
    Lessm.LR.recognise Lessm.Gen.prods action goto 0 Lessm.Gen.startNt (tokIds ts) = .accept

def FRes.isOk : FRes → Bool
  | .ok _ => true
  | _ => false

theorem FRes.eq_ok_of_isOk {r : FRes} (h : r.isOk = true) : r = .ok r.toks := by
  cases r <;> first | rfl | cases h

def acceptsB (tb : Tables) (sig : List String) (action goto : Lessm.LR.Table) (text : String) : Bool :=
  (frontEnd tb sig text).isOk && !(frontEnd tb sig text).toks.isEmpty &&
    (Lessm.LR.recognise Lessm.Gen.prods action goto 0 Lessm.Gen.startNt (tokIds (frontEnd tb sig text).toks) == .accept)

theorem accepts_iff (tb : Tables) (sig : List String) (action goto : Lessm.LR.Table) (text : String) :
    Accepts tb sig action goto text ↔ acceptsB tb sig action goto text = true := by
  simp only [Accepts, acceptsB, Bool.and_eq_true, beq_iff_eq, Bool.not_eq_true', List.isEmpty_eq_false_iff]
  constructor
  · rintro ⟨ts, h1, h2, h3⟩
    rw [h1]
    exact ⟨⟨rfl, h2⟩, h3⟩
  · rintro ⟨⟨h1, h2⟩, h3⟩
    exact ⟨_, FRes.eq_ok_of_isOk h1, h2, h3⟩

instance (tb : Tables) (sig : List String) (action goto : Lessm.LR.Table) (text : String) :
    Decidable (Accepts tb sig action goto text) :=
  decidable_of_iff _ (accepts_iff tb sig action goto text).symm

end Lessm.Lex0

/-! Weights as counts.  The weight tables of `Lessm/Gen/Grammar.lean` are keyed by terminal numbers.  `tw_names` re-checks
  on every regeneration that they are the tables `braceNames`, … keyed by terminal names (so that a weight table with
  further non-zero entries would make this file fail, not the theorems silently weaker); `sumT_counts` turns the weighted
  sum over a token list into counts of token types. -/
namespace Lessm.Lex0
open Lessm.Cfg

/-- a weight table keyed by terminal names -/
def lookS (l : List (String × Int)) (k : String) : Int :=
  match l.find? (·.1 == k) with | some p => p.2 | none => 0

theorem idxOf_inj_of_mem {l : List String} {a b : String} (hb : b ∈ l) (h : l.idxOf a = l.idxOf b) : a = b := by
  have hlt := List.idxOf_lt_length_of_mem hb
  have ha : l[l.idxOf a]'(h ▸ hlt) = a := List.getElem_idxOf _
  have hb' : l[l.idxOf b] = b := List.getElem_idxOf hlt
  simp only [h, hb'] at ha
  exact ha.symm

theorem look_cons (p : Nat × Int) (l : List (Nat × Int)) (k : Nat) :
    Lessm.Cfg.look (p :: l) k = if p.1 = k then p.2 else Lessm.Cfg.look l k := by
  unfold Lessm.Cfg.look
  by_cases h : p.1 = k
  · simp [h]
  · simp [h]

theorem lookS_cons (p : String × Int) (l : List (String × Int)) (k : String) :
    lookS (p :: l) k = if p.1 = k then p.2 else lookS l k := by
  unfold lookS
  by_cases h : p.1 = k
  · simp [h]
  · simp [h]

theorem lookS_of_not_mem {l : List (String × Int)} {k : String} (h : k ∉ l.map (·.1)) : lookS l k = 0 := by
  induction l with
  | nil => rfl
  | cons p l ih =>
    rw [List.map_cons, List.mem_cons, not_or] at h
    rw [lookS_cons, if_neg (Ne.symm h.1), ih h.2]

/-- a weight table keyed by the numbers of member names, looked up at the number of any name, is the table keyed by
    the names (a non-member gets number `length`, which no member has) -/
theorem look_idx (terms : List String) (l : List (String × Int)) (hl : ∀ p ∈ l, p.1 ∈ terms) (ty : String) :
    Lessm.Cfg.look (l.map (fun p => (terms.idxOf p.1, p.2))) (terms.idxOf ty) = lookS l ty := by
  induction l with
  | nil => rfl
  | cons p l ih =>
    have ih' := ih (fun q hq => hl q (List.mem_cons_of_mem _ hq))
    rw [List.map_cons, look_cons, lookS_cons, ih']
    by_cases hp : p.1 = ty
    · rw [if_pos hp, if_pos (by rw [hp])]
    · have hne : ¬ terms.idxOf p.1 = terms.idxOf ty := fun e =>
        hp (idxOf_inj_of_mem (hl p (by simp)) e.symm).symm
      rw [if_neg hp, if_neg hne]

def countTy (ty : String) (ts : List Tok) : Nat := ts.countP (fun t => t.type == ty)

theorem countTy_nil (ty : String) : countTy ty [] = 0 := rfl

theorem countP_type (ty : String) (ts : List Tok) :
    ts.countP (fun t => t.type == ty) = (ts.map (·.type)).count ty := by
  rw [List.count, List.countP_map]
  rfl

theorem countTy_cons (ty : String) (t : Tok) (ts : List Tok) :
    countTy ty (t :: ts) = countTy ty ts + (if t.type = ty then 1 else 0) := by
  simp [countTy, List.countP_cons]

theorem sum_lookS (l : List (String × Int)) (hl : (l.map (·.1)).Nodup) (ts : List Tok) :
    (ts.map (fun t => lookS l t.type)).sum = (l.map (fun p => p.2 * (countTy p.1 ts : Int))).sum := by
  induction l with
  | nil => induction ts <;> simp_all [lookS]
  | cons p l ih =>
    rw [List.map_cons, List.nodup_cons] at hl
    rw [List.map_cons, List.sum_cons, ← ih hl.2]
    clear ih
    -- the keys are distinct: a token of type `p.1` gets `p.2` from the head entry and `0` from the rest of the table,
    -- any other token gets from the whole table what it gets from the rest
    induction ts with
    | nil => simp [countTy_nil]
    | cons t ts iht =>
      rw [List.map_cons, List.sum_cons, iht, List.map_cons, List.sum_cons, countTy_cons, lookS_cons, Int.natCast_add,
        Int.mul_add]
      by_cases h : p.1 = t.type
      · rw [if_pos h, if_pos h.symm, lookS_of_not_mem (h ▸ hl.1)]
        omega
      · rw [if_neg h, if_neg (Ne.symm h)]
        omega

def numbered (l : List (String × Int)) : List (Nat × Int) := l.map (fun p => (Lessm.Gen.terminals.idxOf p.1, p.2))

/-- (`h` is one conjunction because that is how `tw_names`, evaluated once for the four tables, delivers it) -/
theorem sumT_counts {tw : List (Nat × Int)} {l : List (String × Int)}
    (h : tw = numbered l ∧ ∀ p ∈ l, p.1 ∈ Lessm.Gen.terminals) (hd : (l.map (·.1)).Nodup) (ts : List Tok) :
    sumT (look tw) (tokIds ts) = (l.map (fun p => p.2 * (countTy p.1 ts : Int))).sum := by
  rw [h.1, ← sum_lookS l hd, sumT, tokIds, List.map_map]
  exact congrArg List.sum (List.map_congr_left fun t _ => look_idx _ _ h.2 _)

theorem sumT_pair {tw : List (Nat × Int)} {o c : String}
    (h : tw = numbered [(c, -1), (o, 1)] ∧ ∀ p ∈ [(c, -1), (o, 1)], p.1 ∈ Lessm.Gen.terminals) (hne : c ≠ o)
    (ts : List Tok) : sumT (look tw) (tokIds ts) = (countTy o ts : Int) - (countTy c ts : Int) := by
  rw [sumT_counts h (by simp [hne])]
  simp only [List.map_cons, List.map_nil, List.sum_cons, List.sum_nil]
  omega

def braceNames : List (String × Int) := [("t_bclose", -1), ("t_bopen", 1)]
def parenNames : List (String × Int) := [("less_open_format", 1), ("t_pclose", -1), ("t_popen", 1)]
def istrNames : List (String × Int) := [("t_isclose", -1), ("t_isopen", 1)]
def estrNames : List (String × Int) := [("t_eclose", -1), ("t_eopen", 1)]

theorem tw_names :
    (Lessm.Gen.braceTw = numbered braceNames ∧ ∀ p ∈ braceNames, p.1 ∈ Lessm.Gen.terminals) ∧
    (Lessm.Gen.parenTw = numbered parenNames ∧ ∀ p ∈ parenNames, p.1 ∈ Lessm.Gen.terminals) ∧
    (Lessm.Gen.istrTw = numbered istrNames ∧ ∀ p ∈ istrNames, p.1 ∈ Lessm.Gen.terminals) ∧
    (Lessm.Gen.estrTw = numbered estrNames ∧ ∀ p ∈ estrNames, p.1 ∈ Lessm.Gen.terminals) := by
  decide +kernel

/-- the regenerated brace weights are `t_bopen ↦ +1`, `t_bclose ↦ −1`, every other terminal (and every token type that
    is no terminal) `0`: the weighted sum over the tokens is a difference of counts -/
theorem brace_weight_is_count (ts : List Tok) :
    sumT (look Lessm.Gen.braceTw) (tokIds ts)
      = (ts.countP (fun t => t.type == "t_bopen") : Int) - (ts.countP (fun t => t.type == "t_bclose") : Int) :=
  sumT_pair tw_names.1 (by simp) ts

theorem paren_sum (ts : List Tok) :
    sumT (look Lessm.Gen.parenTw) (tokIds ts)
      = (countTy "less_open_format" ts : Int) + (countTy "t_popen" ts : Int) - (countTy "t_pclose" ts : Int) := by
  rw [sumT_counts tw_names.2.1 (by simp [parenNames])]
  simp only [parenNames, List.map_cons, List.map_nil, List.sum_cons, List.sum_nil]
  omega

theorem tokIds_take (ts : List Tok) (k : Nat) : tokIds (ts.take k) <+: tokIds ts := by
  unfold tokIds
  rw [List.map_take]
  exact List.take_prefix _ _

theorem counts_of_balanced {tw : Nat → Int} {opens closes : List Tok → Nat}
    (hsum : ∀ ts, sumT tw (tokIds ts) = (opens ts : Int) - (closes ts : Int)) {ts : List Tok}
    (h : Lessm.LR.balanced tw (tokIds ts) = true) :
    opens ts = closes ts ∧ ∀ k, closes (ts.take k) ≤ opens (ts.take k) := by
  obtain ⟨h0, hp⟩ := (balanced_iff _ _).mp h
  constructor
  · have := hsum ts
    omega
  · intro k
    have := hp _ (tokIds_take ts k)
    rw [hsum] at this
    omega

end Lessm.Lex0
