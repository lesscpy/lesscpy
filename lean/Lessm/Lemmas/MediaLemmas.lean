/-
  Helper lemmas for C07 (@media bubbling).

  `evalItem` returns the item's own block (if any) followed by the @media blocks that bubbled out of it.
  The two parts are told apart by `isMedia` (`evalItem_rule_U` … `evalItem_media_B`); the first is observed
  under the enclosing condition (`evalU`), the second under an extended one (`evalBT`).  Both are proved for
  the observation as the model makes it (`Triple`, a list of conditions); the specification's vocabulary
  (`STriple`, at most one condition) is reached by `toSTriple`, which `ofS` inverts.  In the names, `U`
  and `B` are the two parts as the specification calls them (`specU`: stays at the current @media level;
  `specB`: bubbles out), `T` marks a statement in `Triple`s, `L` the list version of a statement about
  one item.
-/
import Lessm.Spec.MediaSpec
import Lessm.Lemmas.Basic
namespace Lessm.Media
open Lessm.Sel Lessm.Nest

theorem obsList_eq_flatMap (ctx : List Query) (l : List OBlock) : obsList ctx l = l.flatMap (obs ctx) := by
  induction l with
  | nil => rfl
  | cons b r ih => simp [obsList, ih]

theorem obsList_append (ctx : List Query) (a b : List OBlock) :
    obsList ctx (a ++ b) = obsList ctx a ++ obsList ctx b := by
  simp only [obsList_eq_flatMap, List.flatMap_append]

theorem obsList_singleton (ctx : List Query) (b : OBlock) : obsList ctx [b] = obs ctx b := by
  simp [obsList]

/-- the media context as the model carries it -/
def ctxOf : Option Query → List Query
  | none => []
  | some q => [q]

/-- a triple of the specification as the model observes it -/
def ofS (t : STriple) : Triple := ⟨ctxOf t.media, t.sels, t.decls⟩

theorem toSTriple_ofS (t : STriple) : toSTriple (ofS t) = t := by
  obtain ⟨m, s, ds⟩ := t
  cases m <;> rfl

theorem map_toSTriple_ofS (l : List STriple) : (l.map ofS).map toSTriple = l := by
  simp [List.map_map, Function.comp_def, toSTriple_ofS]

/-- the model's way of writing `own` -/
def ownT (ctx : List Query) (s : List Sel) (ds : List Decl) : List Triple :=
  if ds.isEmpty then [] else [⟨ctx, s, ds⟩]

theorem map_ofS_own (m : Option Query) (s : List Sel) (ds : List Decl) :
    (own m s ds).map ofS = ownT (ctxOf m) s ds := by
  unfold own ownT; split <;> rfl

theorem obs_sel (ctx : List Query) (s : List Sel) (props : List Decl) (inner : List OBlock) :
    obs ctx (.mk (.sel s) props inner) = ownT ctx s props ++ obsList ctx inner := by
  rw [obs]; rfl

/-- observation of a bubbling @media block whose own declarations still wait for the selector `s` of
    the enclosing rule, under the enclosing condition `pre` -/
def obsMedT (pre : Option Query) (s : List Sel) : OBlock → List Triple
  | .mk (.media q) props inner => ownT [conj pre q] s props ++ obsList [conj pre q] inner
  | .mk (.sel _) _ _ => []

/-- the same in the specification's vocabulary -/
def obsMed (pre : Option Query) (s : List Sel) : OBlock → List STriple
  | .mk (.media q) props inner =>
      own (some (conj pre q)) s props ++ (obsList [conj pre q] inner).map toSTriple
  | .mk (.sel _) _ _ => []

theorem obsMed_eq (pre : Option Query) (s : List Sel) (b : OBlock) :
    obsMed pre s b = (obsMedT pre s b).map toSTriple := by
  obtain ⟨n, props, inner⟩ := b
  cases n with
  | sel _ => rfl
  | media q =>
    rw [obsMed, obsMedT, List.map_append, ← map_toSTriple_ofS (own _ s props), map_ofS_own]
    rfl

theorem obsMedT_empty (pre : Option Query) (s : List Sel) (n : Name) : obsMedT pre s (.mk n [] []) = [] := by
  cases n <;> rfl

theorem conj_mergeQ (m : Option Query) (a b : Query) : conj m (mergeQ a b) = mergeQ (conj m a) b := by
  cases m <;> simp [conj, mergeQ]

/-! ### a block that is kept only if it is not empty -/

def optBlock (b : OBlock) : List OBlock := if b.nonEmpty then [b] else []

theorem mem_optBlock {b c : OBlock} (h : c ∈ optBlock b) : c = b := by
  unfold optBlock at h
  split at h <;> simp_all

/-- dropping an empty block changes no observation: `f` is any observation that is `[]` on empty blocks -/
theorem flatMap_optBlock {β} {f : OBlock → List β} {b : OBlock}
    (h : ∀ n, f (.mk n [] []) = []) : (optBlock b).flatMap f = f b := by
  obtain ⟨n, props, inner⟩ := b
  cases props <;> cases inner <;> simp [optBlock, OBlock.nonEmpty, h]

theorem obsList_optBlock (ctx : List Query) (b : OBlock) : obsList ctx (optBlock b) = obs ctx b := by
  rw [obsList_eq_flatMap]
  exact flatMap_optBlock fun n => by cases n <;> rfl

theorem rotate_eq (me : List Sel) (mb : OBlock) :
    rotateOutOfRule me mb
      = (optBlock (.mk (.sel me) mb.props mb.inner)).map (fun w => .mk mb.name [] [w]) := by
  simp only [rotateOutOfRule, optBlock]
  split <;> rfl

theorem merge_eq (q q2 : Query) (props : List Decl) (inner : List OBlock) :
    mergeIntoMedia q (.mk (.media q2) props inner) = optBlock (.mk (.media (mergeQ q q2)) props inner) :=
  rfl

/-! ### the two parts of what `evalItem` returns -/

/-- the rule block an item `.rule sel body` evaluates to (before it is dropped when empty) -/
def selfRule (parent : Option (List Sel)) (sel : List Tok) (body : List Item) : OBlock :=
  .mk (.sel (identParse parent sel)) (declsOf body)
    ((evalList (some (identParse parent sel)) body).filter (fun b => !b.isMedia))

def selfMedia (parent : Option (List Sel)) (q : Query) (body : List Item) : OBlock :=
  .mk (.media q) (declsOf body) ((evalList parent body).filter (fun b => !b.isMedia))

theorem evalItem_rule (p : Option (List Sel)) (sel : List Tok) (body : List Item) :
    evalItem p (.rule sel body)
      = optBlock (selfRule p sel body)
        ++ ((evalList (some (identParse p sel)) body).filter (·.isMedia)).flatMap
            (rotateOutOfRule (identParse p sel)) := by
  rw [evalItem]; rfl

theorem evalItem_media (p : Option (List Sel)) (q : Query) (body : List Item) :
    evalItem p (.media q body)
      = optBlock (selfMedia p q body)
        ++ ((evalList p body).filter (·.isMedia)).flatMap (mergeIntoMedia q) := by
  rw [evalItem]; rfl

theorem isMedia_rotate {me : List Sel} {mb b : OBlock} (hb : b ∈ rotateOutOfRule me mb) :
    b.isMedia = mb.isMedia := by
  rw [rotate_eq, List.mem_map] at hb
  obtain ⟨w, _, rfl⟩ := hb
  obtain ⟨n, props, inner⟩ := mb
  cases n <;> rfl

theorem isMedia_merge {q : Query} {mb b : OBlock} (hb : b ∈ mergeIntoMedia q mb) : b.isMedia = true := by
  obtain ⟨n, props, inner⟩ := mb
  cases n with
  | sel s => simp [mergeIntoMedia, OBlock.name] at hb
  | media q2 => rw [merge_eq] at hb; rw [mem_optBlock hb]; rfl

theorem evalItem_rule_parts (p : Option (List Sel)) (sel : List Tok) (body : List Item) :
    (evalItem p (.rule sel body)).filter (fun b => !b.isMedia) = optBlock (selfRule p sel body) ∧
    (evalItem p (.rule sel body)).filter (·.isMedia)
      = ((evalList (some (identParse p sel)) body).filter (·.isMedia)).flatMap
            (rotateOutOfRule (identParse p sel)) := by
  rw [evalItem_rule]
  exact List.filter_append_parts _ (fun b hb => by rw [mem_optBlock hb]; rfl)
    (List.forall_mem_flatMap.mpr fun mb hmb b hb => (isMedia_rotate hb).trans (List.mem_filter.mp hmb).2)

theorem evalItem_rule_U (p : Option (List Sel)) (sel : List Tok) (body : List Item) :
    (evalItem p (.rule sel body)).filter (fun b => !b.isMedia) = optBlock (selfRule p sel body) :=
  (evalItem_rule_parts p sel body).1

theorem evalItem_rule_B (p : Option (List Sel)) (sel : List Tok) (body : List Item) :
    (evalItem p (.rule sel body)).filter (·.isMedia)
      = ((evalList (some (identParse p sel)) body).filter (·.isMedia)).flatMap
            (rotateOutOfRule (identParse p sel)) :=
  (evalItem_rule_parts p sel body).2

theorem isMedia_evalItem_media (p : Option (List Sel)) (q : Query) (body : List Item) :
    ∀ b ∈ evalItem p (.media q body), b.isMedia = true := by
  rw [evalItem_media]
  exact List.forall_mem_append.mpr ⟨fun b hb => by rw [mem_optBlock hb]; rfl,
    List.forall_mem_flatMap.mpr fun mb _ b => isMedia_merge⟩

theorem evalItem_media_U (p : Option (List Sel)) (q : Query) (body : List Item) :
    (evalItem p (.media q body)).filter (fun b => !b.isMedia) = [] :=
  List.filter_eq_nil_iff.mpr fun b hb => by simp [isMedia_evalItem_media p q body b hb]

theorem evalItem_media_B (p : Option (List Sel)) (q : Query) (body : List Item) :
    (evalItem p (.media q body)).filter (·.isMedia) = evalItem p (.media q body) :=
  List.filter_eq_self.mpr (isMedia_evalItem_media p q body)

theorem evalItem_split (p : Option (List Sel)) (i : Item) :
    evalItem p i = (evalItem p i).filter (fun b => !b.isMedia) ++ (evalItem p i).filter (·.isMedia) := by
  cases i with
  | decl d => simp [evalItem]
  | rule sel body => rw [evalItem_rule_U, evalItem_rule_B]; exact evalItem_rule p sel body
  | media q body => rw [evalItem_media_U, evalItem_media_B]; simp

/-! ### model = spec, item by item -/

mutual
/-- the part that stays at the current @media level, under any context -/
theorem evalU (m : Option Query) (p : Option (List Sel)) : ∀ i : Item,
    obsList (ctxOf m) ((evalItem p i).filter (fun b => !b.isMedia)) = (specU m p i).map ofS
  | .decl d => by simp [evalItem, obsList, specU]
  | .rule sel body => by
      rw [evalItem_rule_U, obsList_optBlock, selfRule, obs_sel, evalUL m (some (identParse p sel)) body,
        specU, List.map_append, map_ofS_own]
  | .media q body => by
      rw [evalItem_media_U]; simp [obsList, specU]
theorem evalUL (m : Option Query) (p : Option (List Sel)) : ∀ is : List Item,
    obsList (ctxOf m) ((evalList p is).filter (fun b => !b.isMedia)) = (specUList m p is).map ofS
  | [] => by simp [evalList, obsList, specUList]
  | i :: is => by
      simp only [evalList, List.filter_append, obsList_append, List.map_append, specUList]
      rw [evalU m p i, evalUL m p is]
end

theorem obsMedT_rotate (pre : Option Query) (s me : List Sel) (mb : OBlock) :
    (rotateOutOfRule me mb).flatMap (obsMedT pre s) = obsMedT pre me mb := by
  obtain ⟨n, props, inner⟩ := mb
  rw [rotate_eq, List.flatMap_map]
  cases n with
  | sel _ => simp [OBlock.name, obsMedT]
  | media q =>
    -- the wrapper is observed as the waiting declarations under `me`, then the inner blocks
    rw [flatMap_optBlock fun n => by cases n <;> rfl]
    simp [obsMedT, ownT, obsList, obs_sel, OBlock.name, OBlock.props, OBlock.inner]

theorem obsMedT_merge (pre : Option Query) (s : List Sel) (q : Query) (mb : OBlock) :
    (mergeIntoMedia q mb).flatMap (obsMedT pre s) = obsMedT (some (conj pre q)) s mb := by
  obtain ⟨n, props, inner⟩ := mb
  cases n with
  | sel s => simp [mergeIntoMedia, OBlock.name, obsMedT]
  | media q2 =>
    rw [merge_eq, flatMap_optBlock (obsMedT_empty pre s)]
    simp only [obsMedT, conj_mergeQ]
    rfl

mutual
/-- the part that bubbles out -/
theorem evalBT (m : Option Query) (p : Option (List Sel)) : ∀ i : Item,
    ((evalItem p i).filter (·.isMedia)).flatMap (obsMedT m (p.getD [])) = (specB m p i).map ofS
  | .decl d => by simp [evalItem, specB]
  | .rule sel body => by
      rw [evalItem_rule_B, specB, List.flatMap_assoc, ← evalBTL m (some (identParse p sel)) body]
      simp only [obsMedT_rotate, Option.getD_some]
  | .media q body => by
      -- the block itself is observed as `own ++ specUList`, what each child was merged into as that child
      -- under the extended condition
      rw [evalItem_media_B, evalItem_media, specB, List.map_append, List.map_append, map_ofS_own,
        ← evalUL (some (conj m q)) p body, ← evalBTL (some (conj m q)) p body, List.flatMap_append,
        List.flatMap_assoc, flatMap_optBlock (obsMedT_empty m _)]
      simp only [obsMedT_merge]
      rfl
theorem evalBTL (m : Option Query) (p : Option (List Sel)) : ∀ is : List Item,
    ((evalList p is).filter (·.isMedia)).flatMap (obsMedT m (p.getD [])) = (specBList m p is).map ofS
  | [] => by simp [evalList, specBList]
  | i :: is => by
      simp only [evalList, List.filter_append, List.flatMap_append, specBList, List.map_append]
      rw [evalBT m p i, evalBTL m p is]
end

theorem evalBL (m : Option Query) (p : Option (List Sel)) : ∀ is : List Item,
    ((evalList p is).filter (·.isMedia)).flatMap (obsMed m (p.getD [])) = specBList m p is := by
  intro is
  rw [← map_toSTriple_ofS (specBList m p is), ← evalBTL, List.map_flatMap]
  exact List.flatMap_congr_mem (fun b _ => obsMed_eq m _ b)

/-- at top level the bubbling blocks are printed as they are -/
theorem obs_top_media (b : OBlock) (hb : b.isMedia = true) : obs [] b = obsMedT none [] b := by
  obtain ⟨n, props, inner⟩ := b
  cases n with
  | sel s => simp [OBlock.isMedia] at hb
  | media q => rw [obs]; rfl

theorem observe_item (i : Item) :
    obsList [] (evalItem none i) = (specU none none i ++ specB none none i).map ofS := by
  rw [evalItem_split none i, obsList_append, List.map_append, ← evalBT none none i]
  congr 1
  · exact evalU none none i
  · rw [obsList_eq_flatMap]
    exact List.flatMap_congr_mem (fun b hb => obs_top_media b (List.mem_filter.mp hb).2)

/-- **model = spec, exactly**: the observation is the specification written with the model's media
    contexts, so no context has more than one (merged) query -/
theorem observe_eq (sheet : List Item) : observe sheet = (specSheet sheet).map ofS := by
  unfold observe compileSheet
  induction sheet with
  | nil => rfl
  | cons i is ih =>
    simp only [evalList, obsList_append, List.map_append, specSheet]
    rw [observe_item i, ih, List.map_append]

/-! ### well-formedness of the output: every @media block is top-level -/

theorem ruleOnlyList_iff (l : List OBlock) : ruleOnlyList l = true ↔ ∀ b ∈ l, ruleOnly b = true := by
  induction l with
  | nil => simp [ruleOnlyList]
  | cons a r ih => simp [ruleOnlyList, ih]

theorem ruleOnly_iff (b : OBlock) : ruleOnly b = true ↔ b.isMedia = false ∧ WF b := by
  obtain ⟨n, p, i⟩ := b
  cases n <;> simp [ruleOnly, OBlock.isMedia, WF, OBlock.inner]

/-- what `WF` says, unfolded one level: the inner blocks are rule blocks and are well formed again -/
theorem C07_WF_iff (b : OBlock) : WF b ↔ ∀ c ∈ b.inner, c.isMedia = false ∧ WF c := by
  unfold WF
  rw [ruleOnlyList_iff]
  exact forall_congr' fun c => imp_congr_right fun _ => ruleOnly_iff c

theorem WF_rotate (me : List Sel) (mb b : OBlock) (h : WF mb) (hb : b ∈ rotateOutOfRule me mb) :
    WF b := by
  rw [rotate_eq, List.mem_map] at hb
  obtain ⟨w, hw, rfl⟩ := hb
  rw [mem_optBlock hw]
  simpa [WF, OBlock.inner, ruleOnlyList, ruleOnly] using h

theorem WF_merge (q : Query) (mb b : OBlock) (h : WF mb) (hb : b ∈ mergeIntoMedia q mb) : WF b := by
  obtain ⟨n, props, inner⟩ := mb
  cases n with
  | sel s => simp [mergeIntoMedia, OBlock.name] at hb
  | media q2 => rw [merge_eq] at hb; rw [mem_optBlock hb]; exact h

/-- the shape a rule and an @media item evaluate to (`evalItem_rule`, `evalItem_media`): the block itself
    over the children that are not @media blocks, then what `f` makes of those that are -/
theorem WF_parts {n : Name} {props : List Decl} {kids : List OBlock} {f : OBlock → List OBlock}
    (hk : ∀ b ∈ kids, WF b) (hf : ∀ mb b, WF mb → b ∈ f mb → WF b) :
    ∀ b ∈ optBlock (.mk n props (kids.filter (fun b => !b.isMedia))) ++ (kids.filter (·.isMedia)).flatMap f,
      WF b := by
  refine List.forall_mem_append.mpr ⟨fun b hb => ?_,
    List.forall_mem_flatMap.mpr fun mb hmb b => hf mb b (hk mb (List.mem_filter.mp hmb).1)⟩
  rw [mem_optBlock hb, C07_WF_iff]
  exact fun c hc => ⟨by simpa using (List.mem_filter.mp hc).2, hk c (List.mem_filter.mp hc).1⟩

mutual
theorem WF_evalItem (p : Option (List Sel)) : ∀ i : Item, ∀ b ∈ evalItem p i, WF b
  | .decl d => by simp [evalItem]
  | .rule sel body => by
      rw [evalItem_rule]
      exact WF_parts (WF_evalList _ body) (WF_rotate _)
  | .media q body => by
      rw [evalItem_media]
      exact WF_parts (WF_evalList _ body) (WF_merge q)
theorem WF_evalList (p : Option (List Sel)) : ∀ is : List Item, ∀ b ∈ evalList p is, WF b
  | [] => by simp [evalList]
  | i :: is => by
      rw [evalList]
      exact List.forall_mem_append.mpr ⟨WF_evalItem p i, WF_evalList p is⟩
end

theorem below_not_media (c b : OBlock) (hb : Below c b) : WF b → c.isMedia = false := by
  induction hb with
  | child hc => exact fun h => ((C07_WF_iff _).mp h _ hc).1
  | deeper hc _ ih => exact fun h => ih ((C07_WF_iff _).mp h _ hc).2

theorem extends_conj (m : Option Query) (q : Query) : Extends m (conj m q) := by
  cases m with
  | none => trivial
  | some a => exact ⟨q, rfl⟩

theorem Extends.of_conj (m : Option Query) (q q' : Query) (h : Extends (some (conj m q)) q') :
    Extends m q' := by
  cases m with
  | none => trivial
  | some a =>
    obtain ⟨r, rfl⟩ := h
    exact ⟨q ++ ["and"] ++ r, by simp [conj, mergeQ]⟩

theorem mem_own {m : Option Query} {s : List Sel} {ds : List Decl} {t : STriple} (h : t ∈ own m s ds) :
    t = ⟨m, s, ds⟩ := by
  unfold own at h
  split at h <;> simp_all

mutual
theorem specU_media (m : Option Query) (p : Option (List Sel)) : ∀ i : Item, ∀ t ∈ specU m p i, t.media = m
  | .decl d => by simp [specU]
  | .media q body => by simp [specU]
  | .rule sel body => by
      rw [specU]
      exact List.forall_mem_append.mpr ⟨fun t ht => by rw [mem_own ht], specUList_media m _ body⟩
theorem specUList_media (m : Option Query) (p : Option (List Sel)) : ∀ is : List Item,
    ∀ t ∈ specUList m p is, t.media = m
  | [] => by simp [specUList]
  | i :: is => by
      rw [specUList]
      exact List.forall_mem_append.mpr ⟨specU_media m p i, specUList_media m p is⟩
end

mutual
theorem specB_media (m : Option Query) (p : Option (List Sel)) : ∀ i : Item,
    ∀ t ∈ specB m p i, ∃ q, t.media = some q ∧ Extends m q
  | .decl d => by simp [specB]
  | .rule sel body => by
      rw [specB]
      exact specBList_media m _ body
  | .media q body => by
      simp only [specB, List.forall_mem_append]
      refine ⟨⟨fun t ht => ⟨_, by rw [mem_own ht], extends_conj m q⟩,
        fun t ht => ⟨_, specUList_media _ p body t ht, extends_conj m q⟩⟩, fun t ht => ?_⟩
      obtain ⟨q', h1, h2⟩ := specBList_media (some (conj m q)) p body t ht
      exact ⟨q', h1, Extends.of_conj m q q' h2⟩
theorem specBList_media (m : Option Query) (p : Option (List Sel)) : ∀ is : List Item,
    ∀ t ∈ specBList m p is, ∃ q, t.media = some q ∧ Extends m q
  | [] => by simp [specBList]
  | i :: is => by
      rw [specBList]
      exact List.forall_mem_append.mpr ⟨specB_media m p i, specBList_media m p is⟩
end

theorem conjFrom_some (a : Query) (qs : List Query) :
    conjFrom (some a) qs = some (List.intercalate ["and"] (a :: qs)) := by
  induction qs generalizing a with
  | nil => simp [conjFrom, List.intercalate]
  | cons q r ih =>
    rw [conjFrom, List.foldl_cons, ← conjFrom, conj, ih]
    cases r <;> simp [List.intercalate, mergeQ]

theorem declsOf_mediaNest (q : Query) (qs : List Query) (body : List Item) :
    declsOf [mediaNest q qs body] = [] := by
  cases qs <;> simp [mediaNest, declsOf]

theorem specU_mediaNest (m : Option Query) (p : Option (List Sel)) (q : Query) (qs : List Query)
    (body : List Item) : specU m p (mediaNest q qs body) = [] := by
  cases qs <;> simp [mediaNest, specU]

/-- a nest of @media blocks is specified like one @media block under the conjunction of its queries,
    whatever the body -/
theorem specB_mediaNest (m : Option Query) (p : Option (List Sel)) (q : Query) (qs : List Query)
    (body : List Item) :
    specB m p (mediaNest q qs body)
      = own (conjFrom m (q :: qs)) (p.getD []) (declsOf body)
          ++ specUList (conjFrom m (q :: qs)) p body ++ specBList (conjFrom m (q :: qs)) p body := by
  induction qs generalizing q m with
  | nil => rfl
  | cons q' r ih =>
    simp only [mediaNest, specB, declsOf_mediaNest, own, specUList, specBList, specU_mediaNest,
      List.isEmpty_nil, if_true, List.nil_append, List.append_nil, ih (some (conj m q)) q']
    rfl

/-! ### every declaration list once -/

theorem map_decls_own (m : Option Query) (s : List Sel) (ds : List Decl) :
    (own m s ds).map (·.decls) = group ds := by
  unfold own group; split <;> simp

mutual
theorem once_item (m : Option Query) (p : Option (List Sel)) : ∀ i : Item,
    List.Perm ((specU m p i ++ specB m p i).map (·.decls)) (allDeclGroups i)
  | .decl d => by simp [specU, specB, allDeclGroups]
  | .rule sel body => by
      simpa only [specU, specB, allDeclGroups, List.append_assoc, List.map_append, map_decls_own]
        using (once_list m (some (identParse p sel)) body).append_left (group (declsOf body))
  | .media q body => by
      simpa only [specU, specB, allDeclGroups, List.append_assoc, List.map_append, map_decls_own,
        List.nil_append] using (once_list (some (conj m q)) p body).append_left (group (declsOf body))
theorem once_list (m : Option Query) (p : Option (List Sel)) : ∀ is : List Item,
    List.Perm ((specUList m p is ++ specBList m p is).map (·.decls)) (allDeclGroupsList is)
  | [] => by simp [specUList, specBList, allDeclGroupsList]
  | i :: is => by
      simp only [specUList, specBList, allDeclGroupsList, List.append_assoc]
      -- what bubbles out of `i` changes places with what stays of `is`
      refine (((List.perm_append_comm_assoc _ _ _).append_left _).map _).trans ?_
      simpa only [List.map_append, List.append_assoc] using (once_item m p i).append (once_list m p is)
end

end Lessm.Media
