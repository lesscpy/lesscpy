/-
  Helper lemmas of property C10 (reading the output back) about the models `Lessm.Sel` and `Lessm.Nest`: the selector round
  trip `encode (joinSels sels) = sels`, `pairwiseFilter s = s`, and the invariants that make the output of `identParse`
  canonical.  Uses `C02_desc`, `C02_count`, `tuples_mem`, `NoTrail`, `dropLastSpace_id` of Props/C02.lean.
-/
import Lessm.Spec.FixSpec
import Lessm.Props.C02
namespace Lessm.Nest
open Lessm.Sel

theorem isEnc_cases {t : Tok} (h : isEnc t = true) : t = "?>?" ∨ t = "?+?" ∨ t = "?~?" := by
  simpa [isEnc, or_assoc] using h

theorem isComb_cases {t : Tok} (h : isComb t = true) : t = ">" ∨ t = "+" ∨ t = "~" := by
  simpa [isComb, or_assoc] using h

theorem isEncLike_of_isEnc {t : Tok} (h : isEnc t = true) : isEncLike t = true := by
  rcases isEnc_cases h with rfl | rfl | rfl <;> decide +kernel

theorem isEnc_ne_space {t : Tok} (h : isEnc t = true) : t ≠ " " := by
  rintro rfl; exact absurd h (by decide +kernel)

theorem encComb_spec {t : Tok} (h : isComb t = true) : isEnc (encComb t) = true ∧ canonTok (encComb t) = true := by
  rcases isComb_cases h with rfl | rfl | rfl <;> decide +kernel

theorem decodeTok_of_not_enc {t : Tok} (h : isEnc t = false) : decodeTok t = t := by
  simp only [isEnc, Bool.or_eq_false_iff] at h
  simp [decodeTok, h.1.1, h.1.2, h.2]

theorem decodeTok_enc {t : Tok} (h : isEnc t = true) :
    isComb (decodeTok t) = true ∧ encComb (decodeTok t) = t ∧ (decodeTok t == "*") = false := by
  rcases isEnc_cases h with rfl | rfl | rfl <;> decide +kernel

theorem canonTok_spec {t : Tok} (h : canonTok t = true) :
    t ≠ "," ∧ t ≠ "&" ∧ t ≠ "*" ∧ isComb t = false ∧ (isEnc t = true ∨ isEncLike t = false) := by
  simpa only [canonTok, Bool.and_eq_true, bne_iff_ne, ne_eq, Bool.not_eq_true', Bool.or_eq_true, and_assoc] using h

theorem noSpaceBeforeEnc_cons (t : Tok) (s : Sel) : noSpaceBeforeEnc (t :: s) = true ↔
    (t = " " → ∃ u, s.head? = some u ∧ isEncLike u = false) ∧ noSpaceBeforeEnc s = true := by
  cases s <;> simp [noSpaceBeforeEnc, Decidable.imp_iff_not_or]

/-! ### the round trip: `encodeLoop` reads the decoded, comma-joined tokens back one canonical token at a time -/

theorem popSpaceRev_id {cur : List Tok} (h : cur.head? ≠ some " ") : popSpaceRev cur = cur := by
  unfold popSpaceRev
  split
  · exact absurd rfl h
  · rfl

theorem popSpaceRev_suffix (cur : List Tok) : ∃ pre, cur = pre ++ popSpaceRev cur := by
  unfold popSpaceRev
  split
  · exact ⟨[" "], rfl⟩
  · exact ⟨[], rfl⟩

theorem encodeLoop_decodeTok {t : Tok} (ht : canonTok t = true) (ts cur : List Tok) (done : List Sel)
    (hcur : isEnc t = true → cur.head? ≠ some " ") :
    encodeLoop (decodeTok t :: ts) cur done = encodeLoop ts (t :: cur) done := by
  cases he : isEnc t with
  | true =>
    obtain ⟨h1, h2, h3⟩ := decodeTok_enc he
    simp only [encodeLoop, h3, h1, h2, popSpaceRev_id (hcur he), Bool.false_eq_true, if_false, if_true]
  | false =>
    obtain ⟨h1, -, h3, h4, -⟩ := canonTok_spec ht
    simp [decodeTok_of_not_enc he, encodeLoop, h1, h3, h4]

theorem encodeLoop_decodeSel (s : Sel) (rest : List Tok) (done : List Sel) : ∀ cur : List Tok,
    s.all canonTok = true → noSpaceBeforeEnc s = true →
    (∀ u, s.head? = some u → isEnc u = true → cur.head? ≠ some " ") →
    encodeLoop (decodeSel s ++ rest) cur done = encodeLoop rest (s.reverse ++ cur) done := by
  induction s with
  | nil => intros; rfl
  | cons t s ih =>
    intro cur hc hn hcur
    rw [List.all_cons, Bool.and_eq_true] at hc
    rw [noSpaceBeforeEnc_cons] at hn
    rw [List.reverse_cons, List.append_assoc]
    refine (encodeLoop_decodeTok hc.1 _ cur done (hcur t rfl)).trans (ih (t :: cur) hc.2 hn.2 ?_)
    -- `t` stands before the head `u` of the rest: were it `" "`, `u` would not be encoded
    intro u hu he e
    obtain ⟨u', hu', hl⟩ := hn.1 (Option.some.inj e)
    cases hu.symm.trans hu'
    rw [isEncLike_of_isEnc he] at hl
    cases hl

theorem encodeLoop_joinSels (s : Sel) (r done : List Sel)
    (hs : ∀ x ∈ s :: r, x.all canonTok = true ∧ noSpaceBeforeEnc x = true) :
    encodeLoop (joinSels (s :: r)) [] done = done.reverse ++ s :: r := by
  induction r generalizing s done with
  | nil =>
    have h := hs s List.mem_cons_self
    have := encodeLoop_decodeSel s [] done [] h.1 h.2 (fun _ _ _ => nofun)
    rw [List.append_nil, List.append_nil] at this
    rw [joinSels, this, encodeLoop]; simp
  | cons s2 r ih =>
    have h := hs s List.mem_cons_self
    -- `joinSels` unfolded by `rfl`: its equation for two or more selectors carries the side condition `s2 :: r ≠ []`
    show encodeLoop (decodeSel s ++ "," :: joinSels (s2 :: r)) [] done = _
    rw [encodeLoop_decodeSel s _ done [] h.1 h.2 (fun _ _ _ => nofun), List.append_nil]
    rw [encodeLoop, if_neg (by decide), if_neg (by decide), if_pos (beq_self_eq_true _), List.reverse_reverse,
      ih s2 (s :: done) fun x hx => hs x (List.mem_cons_of_mem _ hx)]
    simp

theorem pairwiseFilter_id (s : Sel) : noSpaceBeforeEnc s = true → pairwiseFilter s = s := by
  -- both functions recurse on `[]`, `[t]`, `t :: u :: r`; induction along the one in the hypothesis hands each case that
  -- hypothesis unfolded
  fun_induction noSpaceBeforeEnc s with
  | case1 => exact fun _ => rfl
  | case2 t => intro h; simp [pairwiseFilter, (by simpa using h : t ≠ " ")]
  | case3 t u r ih =>
    intro h
    rw [Bool.and_eq_true, Bool.not_eq_true'] at h
    rw [pairwiseFilter, if_neg (Bool.eq_false_iff.mp h.1), ih h.2]

/-! ### chains: the adjacency conditions of `CanonSel` as one recursion that carries the previous token,
  so that they pass through `++` -/

/-- a token after which a `" "` may not stand -/
def soft (t : Tok) : Bool := t == " " || isEnc t

/-- may `b` follow `a` in a rooted selector? -/
def okAfter (a b : Tok) : Bool := !(b == " " && soft a)

/-- `chainFrom a s`: `s`, read after the token `a`, has no `" "` after a `" "` or an encoded
    combinator; `chainFrom " " s` also says that `s` does not start with `" "` -/
def chainFrom (a : Tok) : Sel → Bool
  | [] => true
  | b :: r => okAfter a b && chainFrom b r

/-- the last token of `a :: l` (`l.getLastD a`; a function of its own because `simp` rewrites `getLastD` to `getLast?.getD`,
    after which the hypotheses about it that the proofs below hand to `simp` no longer match) -/
def lastOr (a : Tok) : Sel → Tok
  | [] => a
  | b :: r => lastOr b r

theorem soft_space : soft " " = true := by decide +kernel

theorem lastOr_append (l₁ l₂ : Sel) (a : Tok) : lastOr a (l₁ ++ l₂) = lastOr (lastOr a l₁) l₂ := by
  induction l₁ generalizing a with
  | nil => rfl
  | cons b r ih => simp [lastOr, ih]

theorem lastOr_of_ne_nil {l : Sel} (h : l ≠ []) (a b : Tok) : lastOr a l = lastOr b l := by
  cases l with
  | nil => exact absurd rfl h
  | cons x r => rfl

theorem getLast?_eq_lastOr {l : Sel} (h : l ≠ []) (a : Tok) : l.getLast? = some (lastOr a l) := by
  induction l generalizing a with
  | nil => exact absurd rfl h
  | cons b r ih =>
    cases r with
    | nil => rfl
    | cons c r' => rw [List.getLast?_cons_cons, ih (by simp) b]; rfl

theorem chainFrom_append (l₁ l₂ : Sel) (a : Tok) :
    chainFrom a (l₁ ++ l₂) = (chainFrom a l₁ && chainFrom (lastOr a l₁) l₂) := by
  induction l₁ generalizing a with
  | nil => simp [chainFrom, lastOr]
  | cons b r ih => simp [chainFrom, ih, lastOr, Bool.and_assoc]

/-- `chainFrom a` depends on `a` through `soft a` only, and asks least when `a` is not soft -/
theorem chainFrom_mono {a a' : Tok} {l : Sel} (h : soft a = false → soft a' = false)
    (hl : chainFrom a l = true) : chainFrom a' l = true := by
  cases l with
  | nil => rfl
  | cons b r =>
    simp only [chainFrom, okAfter, Bool.and_eq_true, Bool.not_eq_true', Bool.and_eq_false_iff] at hl ⊢
    exact ⟨hl.1.imp_right h, hl.2⟩

theorem chainFrom_weaken {a : Tok} {l : Sel} (h : chainFrom " " l = true) : chainFrom a l = true :=
  chainFrom_mono (fun hs => Bool.noConfusion (soft_space.symm.trans hs)) h

theorem chainFrom_space_head {s : Sel} (h : chainFrom " " s = true) : s.head? ≠ some " " := by
  intro e
  cases s with
  | nil => cases e
  | cons b r =>
    cases Option.some.inj e
    simp [chainFrom, okAfter, soft_space] at h

theorem chainFrom_adj (s : Sel) : ∀ a, chainFrom a s = true →
    noSpaceAfterEnc s = true ∧ noDoubleSpace s = true := by
  induction s with
  | nil => exact fun _ _ => ⟨rfl, rfl⟩
  | cons b s ih =>
    intro a h
    cases s with
    | nil => exact ⟨rfl, rfl⟩
    | cons c r =>
      rw [chainFrom, Bool.and_eq_true] at h
      obtain ⟨h1, h2⟩ := ih b h.2
      have hbc := h.2
      simp only [chainFrom, okAfter, soft, Bool.and_eq_true, Bool.not_eq_true', Bool.and_eq_false_iff,
        Bool.or_eq_false_iff] at hbc
      rcases hbc.1 with hc | ⟨hb, he⟩ <;> simp [noSpaceAfterEnc, noDoubleSpace, *]

/-! ### `pairwiseFilter` makes a rooted selector canonical -/

/-- `pairwiseFilter` on a selector read after the token `a`, five facts that each arm of its recursion needs of the tail, so
    proved together: the chain condition survives; no `" "` is left before a token of the shape `?c?`; the result ends
    in an encoded combinator only if `s` did (a final `" "` that is dropped did not follow one, by the chain); only
    tokens of `s` occur; the head is kept unless it is a `" "`. -/
theorem pf_spec (s : Sel) : ∀ a, chainFrom a s = true →
    chainFrom a (pairwiseFilter s) = true ∧ noSpaceBeforeEnc (pairwiseFilter s) = true ∧
    (isEnc (lastOr a s) = false → isEnc (lastOr a (pairwiseFilter s)) = false) ∧
    (∀ x ∈ pairwiseFilter s, x ∈ s) ∧ (s.head? ≠ some " " → (pairwiseFilter s).head? = s.head?) := by
  fun_induction pairwiseFilter s with
  | case1 => exact fun a _ => ⟨rfl, rfl, id, fun _ h => h, fun _ => rfl⟩
  | case2 t ht =>
    intro a h
    cases eq_of_beq ht
    refine ⟨rfl, rfl, fun _ => ?_, nofun, fun h => absurd rfl h⟩
    -- a `" "` may not follow an encoded combinator
    simp only [chainFrom, okAfter, soft, Bool.and_true, beq_self_eq_true, Bool.true_and, Bool.not_eq_true',
      Bool.or_eq_false_iff] at h
    exact h.2
  | case3 t ht =>
    exact fun a h => ⟨h, by simpa [noSpaceBeforeEnc] using ht, id, fun _ h => h, fun _ => rfl⟩
  | case4 t u rest hc ih =>
    intro a h
    rw [Bool.and_eq_true, beq_iff_eq] at hc
    cases hc.1
    rw [chainFrom, Bool.and_eq_true] at h
    obtain ⟨c, n, l, m, _⟩ := ih " " h.2
    refine ⟨chainFrom_weaken c, n, fun hl => ?_, fun x hx => List.mem_cons_of_mem _ (m x hx), fun h => absurd rfl h⟩
    cases hp : pairwiseFilter (u :: rest) with
    | nil =>
      -- nothing is left: `a` is last, and the `" "` followed it
      simp only [okAfter, soft, beq_self_eq_true, Bool.true_and, Bool.not_eq_true', Bool.or_eq_false_iff] at h
      exact h.1.2
    | cons x X => have := l hl; rwa [hp] at this
  | case5 t u rest hc ih =>
    intro a h
    rw [chainFrom, Bool.and_eq_true] at h
    obtain ⟨c, n, l, m, hd⟩ := ih t h.2
    refine ⟨by rw [chainFrom, h.1, c]; rfl, ?_, l, fun x hx => ?_, fun _ => rfl⟩
    · -- a `" "` that stays stands before `u`, which stays and is not of the shape `?c?`
      refine (noSpaceBeforeEnc_cons _ _).2 ⟨?_, n⟩
      rintro rfl
      exact ⟨u, hd (chainFrom_space_head h.2), by simpa using hc⟩
    · exact List.mem_cons.2 ((List.mem_cons.1 hx).imp_right (m x))

theorem noSpaceBeforeEnc_last {l : Sel} : ∀ d : Tok, l ≠ [] → noSpaceBeforeEnc l = true → lastOr d l ≠ " " := by
  induction l with
  | nil => exact fun _ h _ => absurd rfl h
  | cons t l ih =>
    intro _ _ h
    rw [noSpaceBeforeEnc_cons] at h
    cases l with
    | nil => exact fun e => nomatch h.1 e
    | cons u r => exact ih t (List.cons_ne_nil _ _) h.2

/-- canonical, and not ending in an encoded combinator: the invariant of nesting -/
structure StrongSel (s : Sel) : Prop where
  ne : s ≠ []
  canonToks : s.all canonTok = true
  nsbe : noSpaceBeforeEnc s = true
  chain : chainFrom " " s = true
  last : soft (lastOr " " s) = false

theorem StrongSel.canon {s : Sel} (h : StrongSel s) : CanonSel s = true := by
  obtain ⟨h1, h2⟩ := chainFrom_adj s " " h.chain
  simp [CanonSel, h.ne, h.canonToks, h.nsbe, h1, h2, chainFrom_space_head h.chain]

theorem StrongSel.noTrail {p : Sel} (h : StrongSel p) : NoTrail p := by
  intro e
  have h2 := h.last
  rw [getLast?_eq_lastOr h.ne " "] at e
  rw [Option.some.inj e, soft_space] at h2
  cases h2

/-- token of an encoded name: canonical, or — inside a rule — `&` -/
def tokA (top : Bool) (t : Tok) : Bool := canonTok t || (!top && t == "&")

/-- an encoded name (member of `encode toks` for a well-formed `toks`); the names of a top-level rule
    and the rooted names have no `&`: they are `NameOK true` -/
structure NameOK (top : Bool) (n : Sel) : Prop where
  ne : n ≠ []
  toks : n.all (tokA top) = true
  chain : chainFrom " " n = true
  last : isEnc (lastOr " " n) = false

theorem strong_of_nameOK {s : Sel} (h : NameOK true s) : StrongSel (pairwiseFilter s) := by
  obtain ⟨c, n, l, m, hd⟩ := pf_spec s " " h.chain
  have hne' : pairwiseFilter s ≠ [] := by
    intro e
    have := hd (chainFrom_space_head h.chain)
    rw [e] at this
    cases s with
    | nil => exact h.ne rfl
    | cons => cases this
  refine ⟨hne', List.all_eq_true.mpr fun x hx => ?_, n, c, ?_⟩
  · simpa [tokA] using List.all_eq_true.mp h.toks x (m x hx)
  · simp [soft, noSpaceBeforeEnc_last " " hne' n, l h.last]

theorem canonTok_space : canonTok " " = true := by decide +kernel

/-- a token that ends in `]` is neither `" "` nor an encoded combinator -/
theorem soft_false_of_bracket {acc : Sel} (h : lastEndsBracket acc = true) : soft (lastOr " " acc) = false := by
  cases acc with
  | nil => simp [lastEndsBracket] at h
  | cons x r =>
    rw [lastEndsBracket, getLast?_eq_lastOr (List.cons_ne_nil x r) " "] at h
    generalize lastOr " " (x :: r) = l at h
    apply Bool.eq_false_iff.mpr
    intro hs
    simp only [soft, Bool.or_eq_true, beq_iff_eq] at hs
    rcases hs with rfl | hs
    · exact absurd h (by decide +kernel)
    · rcases isEnc_cases hs with rfl | rfl | rfl <;> exact absurd h (by decide +kernel)

theorem all_tokA_of_canon {l : Sel} (h : l.all canonTok = true) (top : Bool) : l.all (tokA top) = true :=
  List.all_eq_true.mpr fun x hx => by simp [tokA, List.all_eq_true.mp h x hx]

theorem countAmp_cons (t : Tok) (ts : Sel) :
    countAmp (t :: ts) = countAmp ts + if (t == "&") = true then 1 else 0 := by
  simp [countAmp, List.count_cons]

/-- substituting strong selectors for the `&`s of a name: `acc ++ name`, the name with the `&`s done so
    far replaced, stays a name -/
theorem substAmp_nameOK (name : Sel) (perm : List Sel) (acc : Sel) :
    perm.length = countAmp name → (∀ p ∈ perm, StrongSel p) → acc.all canonTok = true →
    NameOK false (acc ++ name) → NameOK true (substAmp name perm acc) := by
  fun_induction substAmp name perm acc with
  | case1 perm acc =>
    intro _ _ hacc h
    rw [List.append_nil] at h
    exact ⟨h.ne, all_tokA_of_canon hacc true, h.chain, h.last⟩
  | case2 t ts acc ht p perm' acc1 ih =>
    intro hlen hperm hacc ⟨_, hall, hch, hl⟩
    cases eq_of_beq ht
    have hp := hperm p List.mem_cons_self
    rw [dropLastSpace_id p hp.noTrail] at ih ⊢
    have hpl := hp.last
    rw [chainFrom_append, chainFrom, Bool.and_eq_true, Bool.and_eq_true] at hch
    rw [lastOr_append] at hl
    -- the code puts a `" "` between a token ending in `]` and the `&`
    have h1 : acc1.all canonTok = true ∧ chainFrom " " acc1 = true := by
      unfold acc1
      split
      · next hb =>
        rw [List.all_append, hacc, chainFrom_append, hch.1]
        simp [chainFrom, okAfter, soft_false_of_bracket hb, canonTok_space]
      · exact ⟨hacc, hch.1⟩
    have hc : (acc1 ++ p).all canonTok = true := by rw [List.all_append, h1.1, hp.canonToks]; rfl
    rw [lastOr_of_ne_nil hp.ne " " (lastOr " " acc1)] at hpl
    refine ih (by simpa [countAmp_cons] using hlen) (fun q hq => hperm q (List.mem_cons_of_mem _ hq)) hc
      ⟨by simp [hp.ne], ?_, ?_, ?_⟩
    · rw [List.all_append, List.all_cons, Bool.and_eq_true, Bool.and_eq_true] at hall
      rw [List.all_append, all_tokA_of_canon hc, hall.2.2]; rfl
    · -- `ts` followed `&`, which is not soft; neither is the last token of `p`
      rw [chainFrom_append, chainFrom_append, h1.2, chainFrom_weaken hp.chain, lastOr_append]
      exact chainFrom_mono (fun _ => hpl) hch.2.2
    · rw [lastOr_append, lastOr_append]
      cases ts with
      | nil => exact (Bool.or_eq_false_iff.mp hpl).2
      | cons x r => exact hl
  | case3 t ts acc ht ih =>
    intro hlen
    simp [countAmp_cons, ht] at hlen
  | case4 t ts perm acc ht ih =>
    intro hlen hperm hacc h
    rw [countAmp_cons, if_neg ht, Nat.add_zero] at hlen
    rw [List.append_cons] at h
    refine ih hlen hperm ?_ h
    have := h.toks
    simp only [List.all_append, List.all_cons, List.all_nil, Bool.and_eq_true, Bool.and_true] at this
    rw [List.all_append, hacc]
    simpa [tokA, ht] using this.1.2

theorem rootOne_nameOK (ps : List Sel) (name : Sel) (hps : ∀ p ∈ ps, StrongSel p) (hn : NameOK false name) :
    ∀ s ∈ rootOne ps name, NameOK true s := by
  intro s hs
  by_cases hk : countAmp name = 0
  · rw [C02_desc ps name hk fun p hp => ⟨(hps p hp).ne, (hps p hp).noTrail⟩, List.mem_map] at hs
    obtain ⟨part, hpart, rfl⟩ := hs
    have hp := hps part hpart
    refine ⟨by simp [hp.ne], all_tokA_of_canon ?_ true, ?_, ?_⟩
    · have hcn : name.all canonTok = true := List.all_eq_true.mpr fun t ht => by
        have hne : t ≠ "&" := fun e => List.count_eq_zero.mp hk (e ▸ ht)
        simpa [tokA, hne] using List.all_eq_true.mp hn.toks t ht
      simp [List.all_append, hp.canonToks, canonTok_space, hcn]
    · rw [chainFrom_append, hp.chain]; simp [chainFrom, okAfter, hp.last, hn.chain]
    · rw [lastOr_append]; exact hn.last
  · simp only [rootOne, hk, ne_eq, not_false_eq_true, if_true, List.mem_map] at hs
    obtain ⟨perm, hperm, rfl⟩ := hs
    obtain ⟨hlen, hmem⟩ := (tuples_mem ps _ perm).mp hperm
    exact substAmp_nameOK name perm [] hlen (fun p hp => hps p (hmem p hp)) rfl hn

theorem rootOne_ne_nil (ps : List Sel) (name : Sel) (hps : ps ≠ []) : rootOne ps name ≠ [] := by
  apply List.ne_nil_of_length_pos
  rw [C02_count]
  have := List.length_pos_iff.mpr hps
  split
  · exact this
  · exact Nat.pow_pos this

/-- the previous source token `prev` is consistent with the head of the (reversed) current name -/
def link (prev : Tok) : List Tok → Bool
  | [] => prev == ","
  | h :: _ =>
      if h == " " then prev == " " else if isEnc h then isComb prev
      else !(prev == "," || prev == " " || isComb prev)

theorem lastOr_reverse_cons (d h : Tok) (c : List Tok) : lastOr d (h :: c).reverse = h := by
  simp [lastOr_append, lastOr]

theorem srcPair_comma (prev : Tok) : srcPair prev "," = !(prev == "," || isComb prev) := by
  simp [srcPair]

theorem srcPair_space (prev : Tok) : srcPair prev " " = !(prev == " " || prev == "," || isComb prev) := by
  simp [srcPair]

theorem link_soft {prev : Tok} {cur : List Tok} (hl : link prev cur = true) (hp : srcPair prev " " = true) :
    soft (lastOr " " cur.reverse) = false := by
  simp only [srcPair_space, Bool.not_eq_true', Bool.or_eq_false_iff] at hp
  cases cur with
  | nil => simp [link, hp.1.2] at hl
  | cons h c =>
    rw [lastOr_reverse_cons]
    -- a `" "` or an encoded combinator at the head has `prev` a `" "` or a combinator
    cases hs : (h == " ") <;> cases he : isEnc h <;> simp [link, soft, hs, he, hp.1.1, hp.2] at hl ⊢

theorem encode_fin {top : Bool} {prev : Tok} {cur : List Tok} (hp : srcPair prev "," = true)
    (hl : link prev cur = true) (hc : cur.all (tokA top) = true) (hch : chainFrom " " cur.reverse = true) :
    NameOK top cur.reverse := by
  simp only [srcPair_comma, Bool.not_eq_true', Bool.or_eq_false_iff] at hp
  cases cur with
  | nil => simp [link, hp.1] at hl
  | cons h c =>
    refine ⟨by simp, by rwa [List.all_reverse], hch, ?_⟩
    rw [lastOr_reverse_cons]
    -- an encoded combinator at the end would have a combinator as `prev`
    apply Bool.eq_false_iff.mpr
    intro he
    have hs : (h == " ") = false := by simpa using isEnc_ne_space he
    simp [link, hs, he, hp.2] at hl

/-- The invariant of the loop of `Identifier.parse` on a well-formed source.  `prev` is the source token just read (`,` at
    the start), `cur` the current name, reversed.  `link prev cur` ties them: `cur` is empty exactly behind a `,`, and its
    head is `" "`, an encoded combinator or another token according as `prev` was `" "`, a combinator or neither — so what
    `srcPair prev t` allows in the source decides what the loop may push next.  `chainFrom " " cur.reverse` is the part of
    `NameOK` that holds of the name so far (no `" "` at its start, after a `" "` or after an encoded combinator).  At a `,`
    and at the end `encode_fin` turns the two into `NameOK`. -/
theorem encodeLoop_ok (top : Bool) (toks : List Tok) : ∀ (prev : Tok) (cur : List Tok) (done : List Sel),
    toks.all (srcTok top) = true → srcChain prev (toks ++ [","]) = true → link prev cur = true →
    cur.all (tokA top) = true → chainFrom " " cur.reverse = true → (∀ n ∈ done, NameOK top n) →
    ∀ n ∈ encodeLoop toks cur done, NameOK top n := by
  induction toks with
  | nil =>
    intro prev cur done _ hsc hl hc hch hd n hn
    rw [List.nil_append, srcChain, srcChain, Bool.and_true] at hsc
    rw [encodeLoop, List.reverse_cons, List.mem_append, List.mem_reverse, List.mem_singleton] at hn
    exact hn.elim (hd n) fun e => e ▸ encode_fin hsc hl hc hch
  | cons t ts ih =>
    intro prev cur done htoks hsc hl hc hch hd
    rw [List.all_cons, Bool.and_eq_true] at htoks
    rw [List.cons_append, srcChain, Bool.and_eq_true] at hsc
    have hst := htoks.1
    simp only [srcTok, Bool.and_eq_true, bne_iff_ne, ne_eq, Bool.not_eq_true', Bool.or_eq_true] at hst
    obtain ⟨⟨hstar, hq⟩, hamp⟩ := hst
    have hstar' : (t == "*") = false := by simpa using hstar
    cases hcomb : isComb t with
    | true =>
      obtain ⟨henc, hcan⟩ := encComb_spec hcomb
      have hsp : (encComb t == " ") = false := by simpa using isEnc_ne_space henc
      obtain ⟨pre, hpre⟩ := popSpaceRev_suffix cur
      rw [hpre, List.all_append, Bool.and_eq_true] at hc
      rw [hpre, List.reverse_append, chainFrom_append, Bool.and_eq_true] at hch
      simp only [encodeLoop, hstar', hcomb, Bool.false_eq_true, if_false, if_true]
      refine ih t (encComb t :: popSpaceRev cur) done htoks.2 hsc.2 ?_ ?_ ?_ hd
      · simp [link, hsp, henc, hcomb]
      · simp [tokA, hcan, hc.2]
      · rw [List.reverse_cons, chainFrom_append, hch.1]; simp [chainFrom, okAfter, hsp]
    | false =>
      cases hcm : (t == ",") with
      | true =>
        cases eq_of_beq hcm
        simp only [encodeLoop, hstar', hcomb, Bool.false_eq_true, if_false, beq_self_eq_true, if_true]
        refine ih "," [] (cur.reverse :: done) htoks.2 hsc.2 (by decide) rfl rfl fun n hn => ?_
        exact (List.mem_cons.mp hn).elim (fun e => e ▸ encode_fin hsc.1 hl hc hch) (hd n)
      | false =>
        simp only [encodeLoop, hstar', hcomb, hcm, Bool.false_eq_true, if_false]
        have hne : isEnc t = false :=
          Bool.eq_false_iff.mpr fun he => by rw [isEncLike_of_isEnc he] at hq; cases hq
        refine ih t (t :: cur) done htoks.2 hsc.2 ?_ ?_ ?_ hd
        · cases hs : (t == " ") <;> simp [link, hs, hne, hcm, hcomb]
        · rw [List.all_cons, hc, Bool.and_true]
          by_cases ha : t = "&"
          · -- `&` only inside a rule
            cases hamp with
            | inl h => rw [ha, h]; decide
            | inr h => exact absurd ha h
          · simp [tokA, canonTok, ha, hstar, hcomb, hq, (by simpa using hcm : t ≠ ",")]
        · rw [List.reverse_cons, chainFrom_append, hch]
          simp only [chainFrom, okAfter, Bool.and_true, Bool.true_and, Bool.not_eq_true', Bool.and_eq_false_iff]
          -- a `" "` of the source follows neither a `" "` nor a `,` nor a combinator
          by_cases hs : t = " "
          · exact Or.inr (link_soft hl (hs ▸ hsc.1))
          · exact Or.inl (by simpa using hs)

theorem encodeLoop_ne_nil (toks : List Tok) (cur : List Tok) (done : List Sel) :
    encodeLoop toks cur done ≠ [] := by
  fun_induction encodeLoop toks cur done with
  | case1 => simp
  | _ => assumption

theorem encode_ok (top : Bool) (toks : List Tok) (h : selOK top toks = true) :
    encode toks ≠ [] ∧ ∀ n ∈ encode toks, NameOK top n := by
  rw [selOK, Bool.and_eq_true] at h
  exact ⟨encodeLoop_ne_nil toks [] [],
    encodeLoop_ok top toks "," [] [] h.1 h.2 (by decide) rfl rfl (List.forall_mem_nil _)⟩

/-! ### `identParse` keeps the nesting invariant -/

/-- the parent selector list of a nested rule: non-empty, every member canonical and not ending in an
    encoded combinator -/
def ParentOK : Option (List Sel) → Prop
  | none => True
  | some ps => ps ≠ [] ∧ ∀ q ∈ ps, StrongSel q

theorem identParse_strong (p : Option (List Sel)) (toks : List Tok) (hp : ParentOK p)
    (h : selOK p.isNone toks = true) : ParentOK (some (identParse p toks)) := by
  obtain ⟨hne, hnames⟩ := encode_ok _ toks h
  have hroot : root p (encode toks) ≠ [] ∧ ∀ n ∈ root p (encode toks), NameOK true n := by
    cases p with
    | none => exact ⟨hne, hnames⟩
    | some ps =>
      obtain ⟨q, qs, rfl⟩ := List.exists_cons_of_ne_nil hp.1
      obtain ⟨n, ns, hen⟩ := List.exists_cons_of_ne_nil hne
      simp only [root]
      refine ⟨by simp [hen, rootOne_ne_nil (q :: qs) n hp.1], fun s hs => ?_⟩
      obtain ⟨n, hn, hs⟩ := List.mem_flatMap.mp hs
      exact rootOne_nameOK _ n hp.2 (hnames n hn) s hs
  refine ⟨by simpa [identParse] using hroot.1, fun s hs => ?_⟩
  obtain ⟨n, hn, rfl⟩ := List.mem_map.mp hs
  exact strong_of_nameOK (hroot.2 n hn)

theorem mem_flat_rule {p : Option (List Sel)} {sel : List Tok} {body : List Item} {r : OutRule} :
    r ∈ flat p (.rule sel body) ↔ (srcDecls body ≠ [] ∧ r = ⟨identParse p sel, srcDecls body⟩) ∨
      r ∈ flatList (some (identParse p sel)) body := by
  by_cases h : srcDecls body = [] <;> simp [flat, h]

mutual
theorem flat_strong (p : Option (List Sel)) (hp : ParentOK p) :
    ∀ t : Item, itemOK p.isNone t = true → ∀ r ∈ flat p t, r.sels ≠ [] ∧ ∀ s ∈ r.sels, StrongSel s
  | .decl _, _ => by simp [flat]
  | .rule sel body, h => by
      rw [itemOK, Bool.and_eq_true] at h
      have hme := identParse_strong p sel hp h.1
      intro r hr
      rcases mem_flat_rule.mp hr with ⟨_, rfl⟩ | hr
      · exact hme
      · exact flatList_strong (some (identParse p sel)) hme body h.2 r hr
theorem flatList_strong (p : Option (List Sel)) (hp : ParentOK p) :
    ∀ ts : List Item, itemsOK p.isNone ts = true → ∀ r ∈ flatList p ts, r.sels ≠ [] ∧ ∀ s ∈ r.sels, StrongSel s
  | [], _ => by simp [flatList]
  | i :: is, h => by
      rw [itemsOK, Bool.and_eq_true] at h
      intro r hr
      rw [flatList, List.mem_append] at hr
      exact hr.elim (flat_strong p hp i h.1 r) (flatList_strong p hp is h.2 r)
end

end Lessm.Nest
