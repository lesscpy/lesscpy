/-
  Lemmas for C05 (mixins).  A sheet is its table and the list of its rules
  (`C05_rule_still_emitted`); a call unfolds to `expandCall` (`C05_call_unfold`, and `C05_call_mixin`
  for an applicable definition).  In a scope of literal values one round of substitution is the
  last, which is what lets a frame be replaced by textual substitution (`evalItems_inline`), provided
  the bodies of the table never read below their own frame (`evalItems_closed`).  `evalF` is a
  structurally recursive twin of `evalItems`, for evaluation in the kernel.  At the end: decidable
  equality of items (for the examples), and the top level read as the body of a rule at the root
  (`go_eq_evalItems`, for the cross-model theorems).
-/
import Lessm.Spec.MixinSpec
import Lessm.Lemmas.VarsLemmas

namespace Lessm.Mixin
open Lessm.Vars Lessm.Sel

theorem compile_eq_go (gas : Nat) (sheet : List Top) :
    compile gas sheet = compile.go gas (buildTable sheet) sheet := rfl

/-- **C05_rule_still_emitted** (compositionality): the output is the concatenation, over the
    top-level rules in order, of what each rule yields against the table of the whole sheet.  A rule
    that is also used as a mixin elsewhere (it is in `(buildTable sheet).blocks`) is emitted exactly
    like any other rule; definitions contribute to the table only. -/
theorem C05_rule_still_emitted (gas : Nat) (sheet : List Top) :
    compile gas sheet = compileRules (buildTable sheet) gas (rulesOf sheet) := by
  rw [compile_eq_go]
  generalize buildTable sheet = tbl
  induction sheet with
  | nil => rfl
  | cons t r ih =>
    cases t with
    | mdef n d => simpa [compile.go, rulesOf] using ih
    | rule sel body =>
      simp only [compile.go, rulesOf, compileRules, compileRule, ih]
      cases evalItems tbl gas 0 false [[], []] (identParse none sel) body with
      | error e => rfl
      | ok p => cases compileRules tbl gas (rulesOf r) <;> rfl

theorem buildTable_append (a b : List Top) :
    buildTable (a ++ b) = ⟨(buildTable a).mixins ++ (buildTable b).mixins,
      (buildTable a).blocks ++ (buildTable b).blocks⟩ := by
  induction a with
  | nil => rfl
  | cons t r ih => cases t <;> simp [buildTable, ih]

theorem rulesOf_append (a b : List Top) : rulesOf (a ++ b) = rulesOf a ++ rulesOf b := by
  induction a with
  | nil => rfl
  | cons t r ih => cases t <;> simp [rulesOf, ih]

theorem Top.isRule_eq (t : Top) : t.isRule = !t.isDef := by cases t <;> rfl

/-- the table and the rules of a sheet are those of its definitions and of its rules, taken
    separately -/
theorem buildTable_rulesOf_filter (s : List Top) :
    buildTable s =
        ⟨(buildTable (s.filter Top.isDef)).mixins, (buildTable (s.filter Top.isRule)).blocks⟩ ∧
      rulesOf s = rulesOf (s.filter Top.isRule) := by
  induction s with
  | nil => exact ⟨rfl, rfl⟩
  | cons t r ih =>
    cases t <;> simp [List.filter, Top.isDef, Top.isRule, buildTable, rulesOf, ← ih.2] <;>
      constructor <;> rw [ih.1]

theorem bindParams_nil_none_iff (ps : List (String × Option Value)) :
    bindParams ps [] = none ↔ ∃ p ∈ ps, p.2 = none := by
  induction ps with
  | nil => simp [bindParams]
  | cons pd ps ih =>
    obtain ⟨p, _ | d⟩ := pd
    · simp [bindParams]
    · simp [bindParams, ih]

theorem bindParams_cons_some {p : String} {d : Option Value} {ps : List (String × Option Value)}
    {as : List Value} {f : Frame} (h : bindParams ((p, d) :: ps) as = some f) :
    ∃ v g, f = (p, v) :: g ∧ bindParams ps as.tail = some g ∧ (v ∈ as ∨ d = some v) := by
  cases as with
  | cons a as =>
    obtain ⟨g, hg, rfl⟩ := Option.map_eq_some_iff.mp h
    exact ⟨a, g, rfl, hg, .inl List.mem_cons_self⟩
  | nil =>
    cases d with
    | none => cases h
    | some d =>
      obtain ⟨g, hg, rfl⟩ := Option.map_eq_some_iff.mp h
      exact ⟨d, g, rfl, hg, .inr rfl⟩

theorem bindParams_names {ps : List (String × Option Value)} {as : List Value} {f : Frame}
    (h : bindParams ps as = some f) : f.map Prod.fst = ps.map Prod.fst := by
  induction ps generalizing as f with
  | nil => cases h; rfl
  | cons pd ps ih =>
    obtain ⟨v, g, rfl, hg, -⟩ := bindParams_cons_some h
    rw [List.map_cons, List.map_cons, ih hg]

theorem bindParams_all {P : Value → Prop} {ps : List (String × Option Value)} {as : List Value}
    {f : Frame} (h : bindParams ps as = some f) (ha : ∀ a ∈ as, P a)
    (hd : ∀ p ∈ ps, ∀ v, p.2 = some v → P v) : ∀ nv ∈ f, P nv.2 := by
  induction ps generalizing as f with
  | nil => cases h; exact List.forall_mem_nil _
  | cons pd ps ih =>
    obtain ⟨v, g, rfl, hg, hv⟩ := bindParams_cons_some h
    intro nv hnv
    rcases List.mem_cons.mp hnv with rfl | hnv
    · exact hv.elim (ha v) (hd _ List.mem_cons_self v)
    · exact ih hg (fun a h => ha a (List.mem_of_mem_tail h))
        (fun q hq => hd q (List.mem_cons_of_mem _ hq)) nv hnv

theorem Frame.get_append (f g : Frame) (n : String) :
    Frame.get (f ++ g) n = (match Frame.get f n with | some v => some v | none => Frame.get g n) := by
  induction f with
  | nil => simp [Frame.get]
  | cons kw r ih =>
    obtain ⟨k, w⟩ := kw
    by_cases h : k = n
    · simp [Frame.get, h]
    · simp [Frame.get, h, ih]

theorem Frame.get_none_iff (f : Frame) (n : String) :
    Frame.get f n = none ↔ n ∉ f.map Prod.fst := by
  induction f with
  | nil => exact ⟨fun _ => List.not_mem_nil, fun _ => rfl⟩
  | cons kw r ih =>
    obtain ⟨k, w⟩ := kw
    rw [Frame.get, List.map_cons, List.mem_cons, not_or, ← ih]
    by_cases h : k = n
    · simp [h]
    · simp [h, Ne.symm h]

theorem Frame.get_mem (f : Frame) (n : String) (v : Value) (h : Frame.get f n = some v) :
    (n, v) ∈ f := by
  induction f with
  | nil => cases h
  | cons kw r ih =>
    obtain ⟨k, w⟩ := kw
    unfold Frame.get at h
    split at h
    next hk => cases h; rw [← beq_iff_eq.mp hk]; exact List.mem_cons_self
    · exact List.mem_cons_of_mem _ (ih h)

theorem evalArg_val (Y : Scope) (v : Value) :
    evalArg Y (.val v) = (match singleRef v with
      | some n => (match lookup Y n with | some w => .ok w | none => .error (.unknownVar n))
      | none => .ok v) := by
  match v with
  | [] => rfl
  | [.ref n] => rfl
  | [.lit s] => rfl
  | .ref n :: t :: r => rfl
  | .lit s :: t :: r => rfl

theorem evalArg_arith (Y : Scope) (n : String) (k : Int) :
    evalArg Y (.arith n k) = (liftV (expand Y 64 [.ref n]) >>= fun v => arithVal v k) := rfl

theorem liftV_pure {α : Type} (a : α) : liftV (pure a : Except Vars.Err α) = pure a := rfl

theorem liftV_bind {α β : Type} (x : Except Vars.Err α) (f : α → Except Vars.Err β) :
    liftV (x >>= f) = liftV x >>= fun a => liftV (f a) := by
  cases x with
  | ok a => rfl
  | error e => cases e <;> rfl

/-! The equations of `evalItems`, case by case; the one for a call is `C05_call_unfold`, and
`evalItems_append` after it is the one for `++`. -/

section Equations
variable (tbl : Table) (gas depth : Nat) (inExp : Bool) (sc : Scope) (me : List Sel)

theorem evalItems_nil : evalItems tbl gas depth inExp sc me [] = .ok ([], []) :=
  evalItems.eq_1 ..

theorem evalItems_zero (it : Item) (rest : List Item) :
    evalItems tbl 0 depth inExp sc me (it :: rest) = .error .crash :=
  evalItems.eq_2 ..

theorem evalItems_decl (p : String) (v : Value) (rest : List Item) :
    evalItems tbl (gas + 1) depth inExp sc me (.decl p v :: rest) = (do
      let v' ← liftV (expand sc 64 v)
      let (ds, out) ← evalItems tbl (gas + 1) depth inExp sc me rest
      pure ((p, valText v') :: ds, out)) :=
  evalItems.eq_3 ..

theorem evalItems_rule (sel : List Tok) (body rest : List Item) :
    evalItems tbl (gas + 1) depth inExp sc me (.rule sel body :: rest) = (do
      let (ds1, out1) ← evalItems tbl gas depth inExp ([] :: sc) (identParse (some me) sel) body
      let own : List OutRule := if ds1.isEmpty then [] else [⟨identParse (some me) sel, ds1⟩]
      let (ds, out) ← evalItems tbl (gas + 1) depth inExp sc me rest
      pure (ds, own ++ out1 ++ out)) :=
  evalItems.eq_4 ..

end Equations

/-- **C05_call_unfold**: a call beyond the depth limit is a `NameError`; otherwise the arguments are
    evaluated in the caller's scope, the chosen body (`expandCall`: first applicable definition in a
    frame of its own with the counter `callDepth`, else the plain rule of that name in the caller's
    frame, else nothing) is evaluated under the caller's selector `me`, and its declarations and
    rules are spliced in at the position of the call. -/
theorem C05_call_unfold (tbl : Table) (gas depth : Nat) (inExp : Bool) (sc : Scope) (me : List Sel)
    (name : String) (args : List Arg) (rest : List Item) :
    evalItems tbl (gas + 1) depth inExp sc me (.call name args :: rest) =
      (if callDepth inExp depth > 64 then .error (.nameError name) else do
        let args' ← args.mapM (evalArg sc)
        let r1 ← expandCall tbl gas (callDepth inExp depth) sc me name args'
        let r ← evalItems tbl (gas + 1) depth inExp sc me rest
        pure (r1.1 ++ r.1, r1.2 ++ r.2)) := by
  rw [evalItems.eq_5]
  refine ite_congr rfl (fun _ => rfl) fun _ => congrArg _ (funext fun args' => ?_)
  unfold expandCall
  cases firstApplicable sc args' (tbl.candidates name) with
  | some mf => rfl
  | none =>
    cases (tbl.candidates name).isEmpty with
    | false => rfl
    | true => cases tbl.block name <;> rfl

/-- `C05_call_unfold` in the case of an applicable definition; `C05_call_mixin` is its case `rest = []` -/
theorem evalItems_call_some {tbl : Table} {gas depth : Nat} {inExp : Bool} {sc : Scope} {me : List Sel}
    {name : String} {args : List Arg} {args' : List Value} {m : MixinDef} {fr : Frame}
    (rest : List Item) (hd : callDepth inExp depth ≤ 64) (ha : args.mapM (evalArg sc) = .ok args')
    (hm : firstApplicable sc args' (tbl.candidates name) = some (m, fr)) :
    evalItems tbl (gas + 1) depth inExp sc me (.call name args :: rest) =
      (do
        let r1 ← evalItems tbl gas (callDepth inExp depth) true (fr :: sc) me m.body
        let r ← evalItems tbl (gas + 1) depth inExp sc me rest
        pure (r1.1 ++ r.1, r1.2 ++ r.2)) := by
  rw [C05_call_unfold, if_neg (Nat.not_lt_of_le hd), ha]
  simp only [bind, Except.bind, expandCall, hm]

/-- **C05_call_mixin**: the case of an applicable definition. -/
theorem C05_call_mixin (tbl : Table) (gas depth : Nat) (inExp : Bool) (sc : Scope) (me : List Sel)
    (name : String) (args : List Arg) (args' : List Value) (m : MixinDef) (fr : Frame)
    (hd : callDepth inExp depth ≤ 64) (ha : args.mapM (evalArg sc) = .ok args')
    (hm : firstApplicable sc args' (tbl.candidates name) = some (m, fr)) :
    evalItems tbl (gas + 1) depth inExp sc me [.call name args] =
      evalItems tbl gas (callDepth inExp depth) true (fr :: sc) me m.body := by
  rw [evalItems_call_some [] hd ha hm, evalItems_nil]
  cases evalItems tbl gas (callDepth inExp depth) true (fr :: sc) me m.body with
  | error e => rfl
  | ok r => simp [bind, Except.bind, pure, Except.pure]

theorem evalItems_append (tbl : Table) (g d : Nat) (ie : Bool) (sc : Scope) (me : List Sel)
    (a b : List Item) : evalItems tbl g d ie sc me (a ++ b) = (do
      let ra ← evalItems tbl g d ie sc me a
      let rb ← evalItems tbl g d ie sc me b
      pure (ra.1 ++ rb.1, ra.2 ++ rb.2)) := by
  induction a with
  | nil => rw [List.nil_append, evalItems_nil]; cases evalItems tbl g d ie sc me b <;> rfl
  | cons it rest ih =>
    rw [List.cons_append]
    cases g with
    | zero => rw [evalItems_zero, evalItems_zero]; rfl
    | succ g =>
      -- both sides are the same binds, associated differently
      cases it with
      | decl p v =>
        rw [evalItems_decl, evalItems_decl, ih]
        simp only [bind_assoc, pure_bind, List.cons_append]
      | rule sel body =>
        rw [evalItems_rule, evalItems_rule, ih]
        simp only [bind_assoc, pure_bind, List.append_assoc]
      | call name args =>
        rw [C05_call_unfold, C05_call_unfold, ih]
        split
        · rfl
        · simp only [bind_assoc, pure_bind, List.append_assoc]

theorem lookup_append (top r : Scope) (n : String) :
    lookup (top ++ r) n = (match lookup top n with | some v => some v | none => lookup r n) := by
  induction top with
  | nil => rfl
  | cons f t ih =>
    simp only [List.cons_append, lookup_cons, ih]
    cases Frame.get f n <;> rfl

theorem hasRef_append (a b : Value) : hasRef (a ++ b) = (hasRef a || hasRef b) := by
  induction a with
  | nil => rfl
  | cons t r ih => cases t <;> simp [hasRef, ih]

theorem LitFrame_get {fr : Frame} (h : LitFrame fr = true) {n : String} {v : Value}
    (hg : Frame.get fr n = some v) : hasRef v = false := by
  have := Frame.get_mem fr n v hg
  simp only [LitFrame, List.all_eq_true] at h
  simpa using h _ this

theorem LitScope_cons (f : Frame) (sc : Scope) :
    LitScope (f :: sc) = (LitFrame f && LitScope sc) := by simp [LitScope]

theorem LitScope_lookup {sc : Scope} (hl : LitScope sc = true) {n : String} {v : Value}
    (h : lookup sc n = some v) : hasRef v = false := by
  induction sc with
  | nil => cases h
  | cons f sc ih =>
    rw [LitScope_cons, Bool.and_eq_true] at hl
    rw [lookup_cons] at h
    cases hg : Frame.get f n with
    | some w => rw [hg] at h; cases h; exact LitFrame_get hl.1 hg
    | none => rw [hg] at h; exact ih hl.2 h

/-! ### substitution in literal scopes: one round is enough -/

theorem substOnce_of_noRef (X : Scope) (v : Value) (h : hasRef v = false) : substOnce X v = .ok v := by
  induction v with
  | nil => rfl
  | cons t r ih =>
    cases t with
    | lit s => rw [substOnce, ih h]; rfl
    | ref n => cases h

theorem substOnce_lit {X : Scope} (hX : LitScope X = true) (v v' : Value)
    (h : substOnce X v = .ok v') : hasRef v' = false := by
  rw [hasRef_false_iff, List.eq_nil_iff_forall_not_mem]
  intro m hm
  obtain ⟨n, _, w, hw, hmw⟩ := substOnce_refsOf X v v' h m hm
  rw [(hasRef_false_iff w).mp (LitScope_lookup hX hw)] at hmw
  exact List.not_mem_nil hmw

theorem expand_of_noRef (X : Scope) (fuel : Nat) (v : Value) (h : hasRef v = false) :
    expand X fuel v = .ok v := by
  cases fuel <;> simp [expand, h]

theorem expand_eq_substOnce {X : Scope} (hX : LitScope X = true) (fuel : Nat) (v : Value) :
    expand X (fuel + 1) v = substOnce X v := by
  rw [expand_succ]
  cases h : hasRef v with
  | false => rw [substOnce_of_noRef X v h]; rfl
  | true =>
    rw [if_pos rfl]
    cases hs : substOnce X v with
    | error e => rfl
    | ok v' => exact expand_of_noRef X fuel v' (substOnce_lit hX v v' hs)

theorem substOnce_of_noRef_append (X : Scope) (w r : Value) (h : hasRef w = false) :
    substOnce X (w ++ r) = (substOnce X r).map (w ++ ·) := by
  induction w with
  | nil => rw [List.nil_append]; cases substOnce X r <;> rfl
  | cons t w ih =>
    cases t with
    | lit s => rw [List.cons_append, substOnce, ih h]; cases substOnce X r <;> rfl
    | ref n => cases h

/-- `X1` is `X2` with the frame `fr` slipped in (under frames that bind nothing) -/
def Splits (X1 : Scope) (fr : Frame) (X2 : Scope) : Prop :=
  ∀ n, lookup X1 n = (match Frame.get fr n with | some v => some v | none => lookup X2 n)

theorem Splits.base (fr : Frame) (sc : Scope) : Splits (fr :: sc) fr sc := fun _ => rfl

theorem Splits.push {X1 X2 : Scope} {fr : Frame} (h : Splits X1 fr X2) :
    Splits ([] :: X1) fr ([] :: X2) := by
  intro n; rw [lookup_nil_cons, lookup_nil_cons]; exact h n

theorem Splits.agree {X1 X2 : Scope} {fr : Frame} (h : Splits X1 fr X2) {p : String}
    (hp : Frame.get fr p = none) : lookup X1 p = lookup X2 p := by
  rw [h p, hp]

theorem substOnce_subst {X1 X2 : Scope} {fr : Frame} (hs : Splits X1 fr X2)
    (hf : LitFrame fr = true) (v : Value) : substOnce X1 v = substOnce X2 (substValue fr v) := by
  induction v with
  | nil => rfl
  | cons t r ih =>
    cases t with
    | lit s => simp only [substValue, substOnce, ih]
    | ref n =>
      simp only [substValue, substOnce, hs n]
      cases hg : Frame.get fr n with
      | some w =>
        simp only
        rw [substOnce_of_noRef_append X2 w _ (LitFrame_get hf hg), ← ih]
        cases substOnce X1 r <;> rfl
      | none => simp only [substOnce, ih]

theorem expand_subst {X1 X2 : Scope} {fr : Frame} (hs : Splits X1 fr X2)
    (hf : LitFrame fr = true) (h1 : LitScope X1 = true) (h2 : LitScope X2 = true)
    (fuel : Nat) (v : Value) :
    expand X1 (fuel + 1) v = expand X2 (fuel + 1) (substValue fr v) := by
  rw [expand_eq_substOnce h1, expand_eq_substOnce h2, substOnce_subst hs hf]

theorem substValue_of_noRef (fr : Frame) (v : Value) (h : hasRef v = false) : substValue fr v = v := by
  induction v with
  | nil => rfl
  | cons t r ih =>
    cases t with
    | lit s => rw [substValue, ih h]
    | ref n => cases h

theorem singleRef_some {v : Value} {n : String} (h : singleRef v = some n) : v = [.ref n] := by
  unfold singleRef at h
  split at h
  · cases h; rfl
  · cases h

theorem singleRef_of_noRef {v : Value} (h : hasRef v = false) : singleRef v = none := by
  cases hs : singleRef v with
  | none => rfl
  | some n => rw [singleRef_some hs] at h; cases h

theorem refsIn_iff {N : List String} {v : Value} : refsIn N v = true ↔ ∀ n ∈ refsOf v, n ∈ N := by
  induction v with
  | nil => simp [refsIn, refsOf]
  | cons t r ih => cases t <;> simp [refsIn, refsOf, ih]

theorem arithVal_num {v : Value} {q : Rat} (k : Int) (h : numOf v = some q) :
    arithVal v k = .ok [.lit (if q + (k : Rat) = 0 then "0" else
      toString (q + (k : Rat)).num ++ (if (q + (k : Rat)).den = 1 then "" else "/" ++ toString (q + (k : Rat)).den) ++
        unitOf v)] := by
  unfold arithVal
  rw [h]
  dsimp only
  split <;> rfl

theorem arithVal_ok {v : Value} {k : Int} {r : Value} (h : arithVal v k = .ok r) :
    ∃ s, r = [.lit s] := by
  cases hq : numOf v with
  | none => rw [arithVal, hq] at h; cases h
  | some q => rw [arithVal_num k hq] at h; cases h; exact ⟨_, rfl⟩

theorem substOnce_single (Y : Scope) (n : String) :
    substOnce Y [.ref n] = (match lookup Y n with
      | none => .error (.unknownVar n)
      | some v => .ok v) := by
  rw [substOnce]
  cases lookup Y n with
  | none => rfl
  | some v => exact congrArg Except.ok (List.append_nil v)

theorem evalArg_congr {Y1 Y2 : Scope} {N : List String} (h1 : LitScope Y1 = true)
    (h2 : LitScope Y2 = true) (h : ∀ n ∈ N, lookup Y1 n = lookup Y2 n)
    (a : Arg) (hc : closedArg N a = true) : evalArg Y1 a = evalArg Y2 a := by
  cases a with
  | val v =>
    rw [evalArg_val, evalArg_val]
    simp only [closedArg] at hc
    cases hs : singleRef v with
    | none => rfl
    | some n =>
      simp only [hs, List.contains_iff_mem] at hc
      simp only [h n hc]
  | arith n k =>
    simp only [closedArg, List.contains_iff_mem] at hc
    rw [evalArg_arith, evalArg_arith, expand_eq_substOnce h1, expand_eq_substOnce h2, substOnce_single,
      substOnce_single, h n hc]

theorem evalArg_subst {X1 X2 : Scope} {fr : Frame} (hs : Splits X1 fr X2)
    (hf : LitFrame fr = true) (h1 : LitScope X1 = true) (h2 : LitScope X2 = true)
    (a : Arg) (hc : inlineArgOK fr a = true) : evalArg X1 a = evalArg X2 (substArg fr a) := by
  cases a with
  | val v =>
    rw [substArg, evalArg_val]
    cases hsr : singleRef v with
    | some n =>
      obtain rfl := singleRef_some hsr
      simp only [substValue, hs n]
      cases hg : Frame.get fr n with
      | some w => simp only [List.append_nil]; rw [evalArg_val, singleRef_of_noRef (LitFrame_get hf hg)]
      | none => rfl
    | none =>
      simp only [inlineArgOK, hsr, Bool.not_eq_true'] at hc
      rw [substValue_of_noRef fr v hc, evalArg_val, hsr]
  | arith n k =>
    simp only [inlineArgOK] at hc
    rw [evalArg_arith, expand_eq_substOnce h1, substOnce_single, hs n, substArg]
    cases hg : Frame.get fr n with
    | some w =>
      rw [hg] at hc
      obtain ⟨q, hq⟩ := Option.isSome_iff_exists.mp hc
      have hr := arithVal_num k hq
      simp only [hr]
      exact hr
    | none =>
      simp only
      rw [evalArg_arith, expand_eq_substOnce h2, substOnce_single]

theorem evalArg_lit {Y : Scope} (hY : LitScope Y = true) {fr : Frame} {a : Arg} {w : Value}
    (ha : inlineArgOK fr a = true) (h : evalArg Y a = .ok w) : hasRef w = false := by
  cases a with
  | val v =>
    rw [evalArg_val] at h
    cases hs : singleRef v with
    | some n =>
      simp only [hs] at h
      cases hl : lookup Y n with
      | none => rw [hl] at h; cases h
      | some u => rw [hl] at h; cases h; exact LitScope_lookup hY hl
    | none => simp only [hs] at h; cases h; simpa [inlineArgOK, hs] using ha
  | arith n k =>
    rw [evalArg_arith] at h
    obtain ⟨u, -, h⟩ := Except.bind_eq_ok.mp h
    obtain ⟨s, rfl⟩ := arithVal_ok h
    rfl

theorem closedArg_inlineOK {N : List String} {a : Arg} (h : closedArg N a = true) :
    inlineArgOK [] a = true := by
  cases a with
  | val v =>
    simp only [closedArg] at h
    simp only [inlineArgOK]
    cases hs : singleRef v with
    | some n => rfl
    | none => rw [hs] at h; exact h
  | arith n k => rfl

theorem staticArgs_mapM (Y : Scope) (as : List Arg) (vs : List Value)
    (h : staticArgs as = some vs) : as.mapM (evalArg Y) = .ok vs := by
  induction as generalizing vs with
  | nil => cases h; rfl
  | cons a r ih =>
    cases a with
    | arith n k => cases h
    | val v =>
      unfold staticArgs at h
      split at h
      · cases h
      next hv =>
        obtain ⟨ws, hws, rfl⟩ := Option.map_eq_some_iff.mp h
        rw [List.mapM_cons, ih ws hws, evalArg_val, singleRef_of_noRef (by simpa using hv)]
        rfl

/-- the second alternative of `h`: the frame binds the parameter to a number, and `condHolds` does not
    fall back on the scope -/
theorem condHolds_congr (frd : Frame) {Y1 Y2 : Scope} (c : GCond)
    (h : lookup Y1 c.param = lookup Y2 c.param ∨
      ((Frame.get frd c.param).bind numOf).isSome = true) :
    condHolds frd Y1 c = condHolds frd Y2 c := by
  unfold condHolds
  rcases h with h | h
  · rw [h]
  · cases hq : (Frame.get frd c.param).bind numOf with
    | none => rw [hq] at h; cases h
    | some q => rfl

theorem guardHolds_congr (frd : Frame) (Y1 Y2 : Scope) (g : List (List GCond))
    (h : ∀ ch ∈ g, ∀ c ∈ ch, condHolds frd Y1 c = condHolds frd Y2 c) :
    guardHolds frd Y1 g = guardHolds frd Y2 g := by
  unfold guardHolds
  rw [List.any_congr_mem fun ch hch => List.all_congr_mem (h ch hch)]

theorem tryMixin_some {Y : Scope} {d : MixinDef} {args : List Value} {frd : Frame}
    (h : tryMixin Y d args = some frd) :
    ∃ f0, bindParams d.params args = some f0 ∧
      frd = f0 ++ [("arguments", intersperseSp (if args.isEmpty then f0.map (·.2) else args))] := by
  unfold tryMixin at h
  cases hb : bindParams d.params args with
  | none => rw [hb] at h; cases h
  | some f0 =>
    simp only [hb, Option.ite_none_right_eq_some, Option.some.injEq] at h
    exact ⟨f0, rfl, h.2.symm⟩

theorem tryMixin_congr {Y1 Y2 : Scope} {d : MixinDef} {args : List Value}
    (h : ∀ p ∈ guardParams d, lookup Y1 p = lookup Y2 p ∨ guardDecided d args p = true) :
    tryMixin Y1 d args = tryMixin Y2 d args := by
  unfold tryMixin
  cases hb : bindParams d.params args with
  | none => rfl
  | some f0 =>
    simp only
    rw [guardHolds_congr _ Y1 Y2 d.guard]
    intro ch hch c hc
    refine condHolds_congr _ c ((h c.param (List.mem_map_of_mem
      (List.mem_flatten.mpr ⟨ch, hch, hc⟩))).imp_right fun hd => ?_)
    simp only [guardDecided, hb] at hd
    rw [Frame.get_append]
    cases hg : Frame.get f0 c.param with
    | none => rw [hg] at hd; cases hd
    | some v => rw [hg] at hd; exact hd

theorem firstApplicable_congr {Y1 Y2 : Scope} {args : List Value} {cands : List MixinDef}
    (h : ∀ d ∈ cands, tryMixin Y1 d args = tryMixin Y2 d args) :
    firstApplicable Y1 args cands = firstApplicable Y2 args cands := by
  induction cands with
  | nil => rfl
  | cons d ds ih =>
    rw [firstApplicable, firstApplicable, h d List.mem_cons_self,
      ih fun e he => h e (List.mem_cons_of_mem _ he)]

theorem firstApplicable_some {Y : Scope} {args : List Value} {m : MixinDef} {frd : Frame}
    {cands : List MixinDef} (h : firstApplicable Y args cands = some (m, frd)) :
    m ∈ cands ∧ tryMixin Y m args = some frd := by
  induction cands with
  | nil => cases h
  | cons d ds ih =>
    unfold firstApplicable at h
    split at h
    next f ht => cases h; exact ⟨List.mem_cons_self, ht⟩
    · exact (ih h).imp_left (List.mem_cons_of_mem _)

theorem mem_candidates {tbl : Table} {name : String} {m : MixinDef}
    (h : m ∈ tbl.candidates name) : (name, m) ∈ tbl.mixins := by
  unfold Table.candidates at h
  obtain ⟨⟨k, d⟩, hk, rfl⟩ := List.mem_map.mp h
  obtain ⟨hm, he⟩ := List.mem_filter.mp hk
  have : k = name := by simpa using he
  subst this
  exact hm

theorem block_mem {tbl : Table} {name : String} {body : List Item}
    (h : tbl.block name = some body) : ∃ k, (k, body) ∈ tbl.blocks := by
  unfold Table.block at h
  simp only [Option.map_eq_some_iff] at h
  obtain ⟨⟨k, b⟩, hk, rfl⟩ := h
  exact ⟨k, List.mem_of_find?_eq_some hk⟩

theorem intersperseSp_lit : ∀ vs : List Value, (∀ v ∈ vs, hasRef v = false) →
    hasRef (intersperseSp vs) = false
  | [], _ => rfl
  | [v], h => by simpa [intersperseSp] using h v (by simp)
  | v :: w :: r, h => by
    simp only [intersperseSp, hasRef_append, h v (by simp),
      intersperseSp_lit (w :: r) (fun u hu => h u (List.mem_cons_of_mem _ hu))]
    rfl

theorem tryMixin_names {Y : Scope} {d : MixinDef} {args : List Value} {frd : Frame}
    (h : tryMixin Y d args = some frd) : frd.map Prod.fst = ownNames d := by
  obtain ⟨f0, hb, rfl⟩ := tryMixin_some h
  simp [ownNames, bindParams_names hb]

theorem tryMixin_lit {Y : Scope} {d : MixinDef} {args : List Value} {frd : Frame}
    (h : tryMixin Y d args = some frd) (ha : ∀ v ∈ args, hasRef v = false)
    (hd : defaultsLit d = true) : LitFrame frd = true := by
  obtain ⟨f0, hb, rfl⟩ := tryMixin_some h
  have h0 : ∀ nv ∈ f0, hasRef nv.2 = false := bindParams_all hb ha fun p hp v hv => by
    have := List.all_eq_true.mp hd p hp
    rw [hv] at this
    simpa using this
  simp only [LitFrame, List.all_append, Bool.and_eq_true, List.all_eq_true, List.all_cons,
    List.all_nil, Bool.and_true, Bool.not_eq_true']
  refine ⟨h0, intersperseSp_lit _ ?_⟩
  split
  · intro v hv
    obtain ⟨nv, hnv, rfl⟩ := List.mem_map.mp hv
    exact h0 nv hnv
  · exact ha

/-! ### closed items do not see below the frames that bind their names -/

theorem lookup_cons_congr (f : Frame) {Y1 Y2 : Scope} {n : String}
    (h : lookup Y1 n = lookup Y2 n) : lookup (f :: Y1) n = lookup (f :: Y2) n := by
  rw [lookup_cons, lookup_cons, h]

theorem lookup_cons_bound {f : Frame} (Y1 Y2 : Scope) {n : String}
    (h : n ∈ f.map Prod.fst) : lookup (f :: Y1) n = lookup (f :: Y2) n := by
  rw [lookup_cons, lookup_cons]
  cases hg : Frame.get f n with
  | some v => rfl
  | none => exact absurd h ((Frame.get_none_iff f n).mp hg)

/-- with `gas`, items closed over `N` evaluate alike in two literal scopes that agree on `N` and on
    every name `fr` does not bind -/
def ClosedAt (tbl : Table) (fr : Frame) (gas : Nat) : Prop :=
  ∀ (depth : Nat) (inExp : Bool) (Y1 Y2 : Scope) (me : List Sel) (items : List Item)
    (N : List String),
    LitScope Y1 = true → LitScope Y2 = true →
    (∀ n ∈ N, lookup Y1 n = lookup Y2 n) →
    (∀ p, Frame.get fr p = none → lookup Y1 p = lookup Y2 p) →
    closedItems tbl fr N items = true →
    evalItems tbl gas depth inExp Y1 me items = evalItems tbl gas depth inExp Y2 me items

/-- the guard condition of `closedItem` / `inlineItemOK`, once the arguments are evaluated -/
theorem guardDecided_of_static {Y : Scope} {as : List Arg} {args' : List Value} {d : MixinDef}
    {p : String} (hm : as.mapM (evalArg Y) = .ok args')
    (h : (match staticArgs as with | some vs => guardDecided d vs p | none => false) = true) :
    guardDecided d args' p = true := by
  cases hst : staticArgs as with
  | none => rw [hst] at h; cases h
  | some vs =>
    rw [hst] at h
    cases hm.symm.trans (staticArgs_mapM Y _ _ hst)
    exact h

/-- what a call expands to does not depend on the frames below the callee's own: the callee is chosen
    alike (its guard reads names on which the scopes agree, or is decided by the arguments) and its
    body is closed over the frame it is given -/
theorem expandCall_congr {tbl : Table} {fr : Frame} (hcb : ClosedBodies tbl fr = true) {gas : Nat}
    (ih : ClosedAt tbl fr gas) {Y1 Y2 : Scope} (h1 : LitScope Y1 = true) (h2 : LitScope Y2 = true)
    (hF : ∀ p, Frame.get fr p = none → lookup Y1 p = lookup Y2 p)
    (d : Nat) (me : List Sel) (name : String) {args' : List Value}
    (hlit : ∀ v ∈ args', hasRef v = false)
    (hg : ∀ m ∈ tbl.candidates name, ∀ p ∈ guardParams m,
      lookup Y1 p = lookup Y2 p ∨ guardDecided m args' p = true) :
    expandCall tbl gas d Y1 me name args' = expandCall tbl gas d Y2 me name args' := by
  simp only [ClosedBodies, Bool.and_eq_true, List.all_eq_true] at hcb
  unfold expandCall
  rw [firstApplicable_congr fun m hm => tryMixin_congr (hg m hm)]
  cases hfa : firstApplicable Y2 args' (tbl.candidates name) with
  | some mf =>
    obtain ⟨m, frd⟩ := mf
    obtain ⟨hmem, htry⟩ := firstApplicable_some hfa
    obtain ⟨hdl, hcl⟩ := hcb.1 _ (mem_candidates hmem)
    have hfl := tryMixin_lit htry hlit hdl
    exact ih _ true (frd :: Y1) (frd :: Y2) me m.body (ownNames m)
      (by rw [LitScope_cons, hfl, h1]; rfl) (by rw [LitScope_cons, hfl, h2]; rfl)
      (fun n hn => lookup_cons_bound Y1 Y2 (by rw [tryMixin_names htry]; exact hn))
      (fun p hp => lookup_cons_congr frd (hF p hp)) hcl
  | none =>
    simp only
    split
    · cases hbl : tbl.block name with
      | none => rfl
      | some body =>
        obtain ⟨k, hk⟩ := block_mem hbl
        exact ih _ true Y1 Y2 me body [] h1 h2 (List.forall_mem_nil _) hF (hcb.2 _ hk)
    · rfl

/-- one call and what follows it; `as2`, `rest2` are `as1`, `rest1` themselves (`evalItems_closed`)
    or with a frame substituted (`evalItems_inline`) -/
theorem evalItems_call_congr {tbl : Table} {fr : Frame} (hcb : ClosedBodies tbl fr = true)
    {gas : Nat} (ih : ClosedAt tbl fr gas) {Y1 Y2 : Scope} (h1 : LitScope Y1 = true)
    (h2 : LitScope Y2 = true) (hF : ∀ p, Frame.get fr p = none → lookup Y1 p = lookup Y2 p)
    {depth : Nat} {inExp : Bool} {me : List Sel} {name : String} {as1 as2 : List Arg}
    {rest1 rest2 : List Item} (hm : as1.mapM (evalArg Y1) = as2.mapM (evalArg Y2))
    (hlit : ∀ a ∈ as1, ∀ v, evalArg Y1 a = .ok v → hasRef v = false)
    (hg : ∀ m ∈ tbl.candidates name, ∀ p ∈ guardParams m, lookup Y1 p = lookup Y2 p ∨
      (match staticArgs as2 with | some vs => guardDecided m vs p | none => false) = true)
    (hrest : evalItems tbl (gas + 1) depth inExp Y1 me rest1 =
      evalItems tbl (gas + 1) depth inExp Y2 me rest2) :
    evalItems tbl (gas + 1) depth inExp Y1 me (.call name as1 :: rest1) =
      evalItems tbl (gas + 1) depth inExp Y2 me (.call name as2 :: rest2) := by
  rw [C05_call_unfold, C05_call_unfold, hrest, ← hm]
  refine ite_congr rfl (fun _ => rfl) fun _ => ?_
  cases hm1 : as1.mapM (evalArg Y1) with
  | error e => rfl
  | ok args' =>
    simp only [bind, Except.bind]
    rw [expandCall_congr hcb ih h1 h2 hF _ me name (List.mapM_ok_all hm1 hlit)
      fun m hm' p hp => (hg m hm' p hp).imp_right (guardDecided_of_static (hm ▸ hm1))]

theorem evalItems_closed {tbl : Table} {fr : Frame} (hcb : ClosedBodies tbl fr = true) :
    ∀ gas, ClosedAt tbl fr gas := by
  intro gas
  induction gas with
  | zero =>
    intro depth inExp Y1 Y2 me items N _ _ _ _ _
    cases items with
    | nil => rw [evalItems_nil, evalItems_nil]
    | cons it rest => rw [evalItems_zero, evalItems_zero]
  | succ gas ih =>
    intro depth inExp Y1 Y2 me items
    induction items with
    | nil => intros; rw [evalItems_nil, evalItems_nil]
    | cons it rest ihr =>
      intro N h1 h2 hN hF hc
      simp only [closedItems, Bool.and_eq_true] at hc
      have hrest := ihr N h1 h2 hN hF hc.2
      cases it with
      | decl p v =>
        rw [evalItems_decl, evalItems_decl, hrest, expand_eq_substOnce h1, expand_eq_substOnce h2,
          substOnce_congr Y1 Y2 N hN v (refsIn_iff.mp hc.1)]
      | rule sel body =>
        rw [evalItems_rule, evalItems_rule, hrest,
          ih depth inExp ([] :: Y1) ([] :: Y2) _ body N h1 h2
            (fun n hn => lookup_cons_congr [] (hN n hn))
            (fun p hp => lookup_cons_congr [] (hF p hp)) hc.1]
      | call name args =>
        have hc1 := hc.1
        simp only [closedItem, Bool.and_eq_true, List.all_eq_true, Bool.or_eq_true,
          List.contains_iff_mem, Option.isNone_iff_eq_none] at hc1
        exact evalItems_call_congr hcb ih h1 h2 hF
          (List.mapM_congr_mem fun a ha => evalArg_congr h1 h2 hN a (hc1.1 a ha))
          (fun a ha v => evalArg_lit h1 (closedArg_inlineOK (hc1.1 a ha)))
          (fun m hm p hp => (hc1.2 m hm p hp).imp_left fun h => h.elim (hN p) (hF p)) hrest

theorem evalItems_inline {tbl : Table} {fr : Frame} (hcb : ClosedBodies tbl fr = true)
    (hf : LitFrame fr = true) :
    ∀ (gas depth : Nat) (inExp : Bool) (X1 X2 : Scope) (me : List Sel) (body : List Item),
      Splits X1 fr X2 → LitScope X1 = true → LitScope X2 = true →
      inlineItemsOK tbl fr body = true →
      evalItems tbl gas depth inExp X1 me body =
        evalItems tbl gas depth inExp X2 me (substItems fr body) := by
  intro gas
  induction gas with
  | zero =>
    intro depth inExp X1 X2 me body _ _ _ _
    cases body with
    | nil => rw [substItems, evalItems_nil, evalItems_nil]
    | cons it rest => rw [substItems, evalItems_zero, evalItems_zero]
  | succ gas ih =>
    intro depth inExp X1 X2 me body
    induction body with
    | nil => intros; rw [substItems, evalItems_nil, evalItems_nil]
    | cons it rest ihr =>
      intro hs h1 h2 hc
      simp only [inlineItemsOK, Bool.and_eq_true] at hc
      have hrest := ihr hs h1 h2 hc.2
      rw [substItems]
      cases it with
      | decl p v =>
        rw [substItem, evalItems_decl, evalItems_decl, hrest, expand_subst hs hf h1 h2]
      | rule sel b =>
        rw [substItem, evalItems_rule, evalItems_rule, hrest,
          ih depth inExp ([] :: X1) ([] :: X2) _ b hs.push h1 h2 hc.1]
      | call name args =>
        have hc1 := hc.1
        simp only [inlineItemOK, Bool.and_eq_true, List.all_eq_true, Bool.or_eq_true,
          Option.isNone_iff_eq_none] at hc1
        rw [substItem]
        exact evalItems_call_congr hcb (evalItems_closed hcb gas) h1 h2 (fun p hp => hs.agree hp)
          (by rw [List.mapM_map]
              exact List.mapM_congr_mem fun a ha => evalArg_subst hs hf h1 h2 a (hc1.1 a ha))
          (fun a ha v => evalArg_lit h1 (hc1.1 a ha))
          (fun m hm p hp => (hc1.2 m hm p hp).imp_left hs.agree) hrest

/-! ### a structurally recursive evaluator, for concrete evaluations in the kernel

`evalItems` is defined by well-founded recursion and does not reduce under `decide +kernel`.
`evalF n` follows the same equations with one more fuel `n` for the structure of the recursion and
answers `none` when `n` runs out; whenever it answers `some r`, `r` is the value of `evalItems`. -/

def evalF (tbl : Table) : Nat → Nat → Nat → Bool → Scope → List Sel → List Item →
    Option (Except Err (List (String × String) × List OutRule))
  | 0, _, _, _, _, _, _ => none
  | _ + 1, _, _, _, _, _, [] => some (.ok ([], []))
  | _ + 1, 0, _, _, _, _, _ :: _ => some (.error .crash)
  | n + 1, gas + 1, depth, inExp, sc, me, .decl p v :: rest =>
      (evalF tbl n (gas + 1) depth inExp sc me rest).map fun r => do
        let v' ← liftV (expand sc 64 v)
        let (ds, out) ← r
        pure ((p, valText v') :: ds, out)
  | n + 1, gas + 1, depth, inExp, sc, me, .rule sel body :: rest =>
      match evalF tbl n gas depth inExp ([] :: sc) (identParse (some me) sel) body,
            evalF tbl n (gas + 1) depth inExp sc me rest with
      | some r1, some r => some (do
          let (ds1, out1) ← r1
          let own : List OutRule := if ds1.isEmpty then [] else [⟨identParse (some me) sel, ds1⟩]
          let (ds, out) ← r
          pure (ds, own ++ out1 ++ out))
      | _, _ => none
  | n + 1, gas + 1, depth, inExp, sc, me, .call name args :: rest =>
      if callDepth inExp depth > 64 then some (.error (.nameError name)) else
      match args.mapM (evalArg sc) with
      | .error e => some (.error e)
      | .ok args' =>
        let r1? := match firstApplicable sc args' (tbl.candidates name) with
          | some (m, fr) => evalF tbl n gas (callDepth inExp depth) true (fr :: sc) me m.body
          | none =>
              if (tbl.candidates name).isEmpty then
                match tbl.block name with
                | some body => evalF tbl n gas (callDepth inExp depth) true sc me body
                | none => some (.ok ([], []))
              else some (.ok ([], []))
        match r1?, evalF tbl n (gas + 1) depth inExp sc me rest with
        | some r1, some r => some (do
            let r1 ← r1
            let r ← r
            pure (r1.1 ++ r.1, r1.2 ++ r.2))
        | _, _ => none

/-- a step of `evalF` that needs two answers -/
theorem evalF_both {a? b? : Option (Except Err (List (String × String) × List OutRule))} {a b}
    {γ : Type} {F : _ → _ → γ} {r : γ}
    (h : (match a?, b? with | some x, some y => some (F x y) | _, _ => none) = some r)
    (ha : ∀ x, a? = some x → a = x) (hb : ∀ y, b? = some y → b = y) : F a b = r := by
  cases a? with
  | none => cases h
  | some x =>
    cases b? with
    | none => cases h
    | some y => cases h; rw [ha x rfl, hb y rfl]

theorem evalF_sound {tbl : Table} (n : Nat) {gas depth : Nat} {inExp : Bool} {sc : Scope} {me : List Sel}
    {items : List Item} {r : Except Err (List (String × String) × List OutRule)}
    (h : evalF tbl n gas depth inExp sc me items = some r) :
    evalItems tbl gas depth inExp sc me items = r := by
  induction n generalizing gas depth inExp sc me items r with
  | zero => cases h
  | succ n ih =>
    cases items with
    | nil => cases h; rw [evalItems_nil]
    | cons it rest =>
      cases gas with
      | zero => cases h; rw [evalItems_zero]
      | succ gas =>
        cases it with
        | decl p v =>
          obtain ⟨r0, h0, rfl⟩ := Option.map_eq_some_iff.mp h
          rw [evalItems_decl, ih h0]
        | rule sel body =>
          rw [evalItems_rule]
          exact evalF_both h (fun _ => ih) (fun _ => ih)
        | call name args =>
          rw [C05_call_unfold]
          unfold expandCall
          unfold evalF at h
          by_cases hd : callDepth inExp depth > 64
          · rw [if_pos hd] at h ⊢; exact Option.some.inj h
          · rw [if_neg hd] at h ⊢
            cases ha : args.mapM (evalArg sc) with
            | error e => rw [ha] at h; exact Option.some.inj h
            | ok args' =>
              simp only [ha] at h
              -- the same choice of a body on both sides, `evalF` for `evalItems`
              refine evalF_both h ?_ (fun _ => ih)
              cases firstApplicable sc args' (tbl.candidates name) with
              | some mf => exact fun _ => ih
              | none =>
                cases (tbl.candidates name).isEmpty with
                | false => exact fun _ => Option.some.inj
                | true =>
                  cases tbl.block name with
                  | none => exact fun _ => Option.some.inj
                  | some body => exact fun _ => ih

def compileRulesF (tbl : Table) (n gas : Nat) :
    List (List Tok × List Item) → Option (Except Err (List OutRule))
  | [] => some (.ok [])
  | (sel, body) :: r =>
      match evalF tbl n gas 0 false [[], []] (identParse none sel) body, compileRulesF tbl n gas r with
      | some a, some b => some (do
          let a ← (do
            let (ds, out) ← a
            let own : List OutRule := if ds.isEmpty then [] else [⟨identParse none sel, ds⟩]
            pure (own ++ out))
          let rest ← b
          pure (a ++ rest))
      | _, _ => none

theorem compileRulesF_sound {tbl : Table} (n gas : Nat) {rs : List (List Tok × List Item)}
    (r : Except Err (List OutRule)) (h : compileRulesF tbl n gas rs = some r) :
    compileRules tbl gas rs = r := by
  induction rs generalizing r with
  | nil => cases h; rfl
  | cons sb rs ih =>
    obtain ⟨sel, body⟩ := sb
    unfold compileRulesF at h
    split at h
    next a b ha hb =>
      cases h
      rw [compileRules, compileRule, evalF_sound n ha, ih b hb]
    · cases h

/-- concrete evaluation of `compile` through the structural evaluator -/
theorem compile_of_F (n gas : Nat) (sheet : List Top) (r : Except Err (List OutRule))
    (h : compileRulesF (buildTable sheet) n gas (rulesOf sheet) = some r) : compile gas sheet = r := by
  rw [C05_rule_still_emitted]
  exact compileRulesF_sound n gas r h

/-! ### decidable equality of items (the model derives none), for the examples -/

mutual
def decEqItem : (a b : Item) → Decidable (a = b)
  | .decl p v, .decl q w => decidable_of_decidable_of_eq (Item.decl.injEq p v q w).symm
  | .rule s b, .rule t c =>
      have := decEqItems b c
      decidable_of_decidable_of_eq (Item.rule.injEq s b t c).symm
  | .call n as, .call m bs => decidable_of_decidable_of_eq (Item.call.injEq n as m bs).symm
  | .decl .., .rule .. | .decl .., .call .. | .rule .., .decl .. | .rule .., .call ..
  | .call .., .decl .. | .call .., .rule .. => isFalse nofun
def decEqItems : (a b : List Item) → Decidable (a = b)
  | [], [] => isTrue rfl
  | [], _ :: _ | _ :: _, [] => isFalse nofun
  | a :: as, b :: bs =>
      have := decEqItem a b
      have := decEqItems as bs
      decidable_of_decidable_of_eq (List.cons.injEq a as b bs).symm
end

instance : DecidableEq Item := decEqItem
deriving instance DecidableEq for GCond
deriving instance DecidableEq for MixinDef

/-! ### the top level is a body -/

/-- the top-level rules of a sheet as the items of one body -/
def itemsOf : List Top → List Item
  | [] => []
  | .mdef _ _ :: r => itemsOf r
  | .rule sel body :: r => .rule sel body :: itemsOf r

theorem identParse_some_nil (toks : List Tok) : identParse (some []) toks = identParse none toks := rfl

/-- the top level is not special: a sheet is evaluated like the body of a rule at the root, with no
    enclosing selector (`some []` acts as `none` in `Sel.root`) and the global frame -/
theorem go_eq_evalItems (tbl : Table) (gas : Nat) (sheet : List Top) :
    compile.go gas tbl sheet = (·.2) <$> evalItems tbl (gas + 1) 0 false [[]] [] (itemsOf sheet) := by
  induction sheet with
  | nil => rw [itemsOf, evalItems_nil]; rfl
  | cons t r ih =>
    cases t with
    | mdef n d => rw [compile.go, itemsOf, ih]
    | rule sel body =>
      rw [compile.go, itemsOf, evalItems_rule, ih, identParse_some_nil]
      cases evalItems tbl gas 0 false [[], []] (identParse none sel) body with
      | error e => rfl
      | ok x => cases evalItems tbl (gas + 1) 0 false [[]] [] (itemsOf r) <;> rfl

end Lessm.Mixin
