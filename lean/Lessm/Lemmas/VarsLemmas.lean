/-
  Lemmas behind C03 (variables).  The model runs two passes over a stack of frames, the specification
  one pass over the hoisted lexical environment.  `model_item` / `model_list` (inside a block) and
  `model_top` (top level) relate them through three facts about the scopes: pass G sees a part of the
  environment (`Sub`), pass E sees the environment itself (`Agree`), both on the names reachable from
  the uses of the current item (`reach`, closed under the definitions: `reach_closed`), and every value
  in the environment is a definition of the program (`ValIn`).  What substitution makes of `Sub` and
  `Agree` is one statement per function (`Below`).  The last part (`LitDecl`, `passEItem_lit`) is about the
  output alone: every emitted declaration is the literal text of a successful substitution.
-/
import Lessm.Spec.VarsSpec
import Lessm.Lemmas.Basic

namespace Lessm.Vars

theorem Frame.get_set_self (f : Frame) (n : String) (v : Value) :
    Frame.get (Frame.set f n v) n = some v := by
  induction f with
  | nil => simp [Frame.set, Frame.get]
  | cons kw r ih =>
    obtain ⟨k, w⟩ := kw
    by_cases h : k = n
    · simp [Frame.set, Frame.get, h]
    · simp [Frame.set, Frame.get, h, ih]

theorem Frame.get_set_ne (f : Frame) {m n : String} (h : m ≠ n) (v : Value) :
    Frame.get (Frame.set f n v) m = Frame.get f m := by
  induction f with
  | nil => simp [Frame.set, Frame.get, Ne.symm h]
  | cons kw r ih =>
    obtain ⟨k, w⟩ := kw
    by_cases hk : k = n
    · subst hk
      simp [Frame.set, Frame.get, Ne.symm h]
    · by_cases hm : k = m
      · subst hm
        simp [Frame.set, Frame.get, hk]
      · simp [Frame.set, Frame.get, hk, hm, ih]

theorem lookup_cons (f : Frame) (sc : Scope) (n : String) :
    lookup (f :: sc) n = (match f.get n with | some v => some v | none => lookup sc n) := rfl

theorem lookup_nil_cons (sc : Scope) (n : String) : lookup ([] :: sc) n = lookup sc n := rfl

theorem lookup_singleton (f : Frame) (n : String) : lookup [f] n = f.get n := by
  rw [lookup_cons]; cases f.get n <;> rfl

theorem refsOf_append (a b : Value) : refsOf (a ++ b) = refsOf a ++ refsOf b := by
  induction a with
  | nil => rfl
  | cons t r ih => cases t <;> simp [refsOf, ih]

theorem hasRef_false_iff (v : Value) : hasRef v = false ↔ refsOf v = [] := by
  induction v with
  | nil => simp [hasRef, refsOf]
  | cons t r ih => cases t <;> simp [hasRef, refsOf, ih]

/-- **C03_no_ref**: no variable reference survives a successful substitution. -/
theorem C03_no_ref (sc : Scope) (fuel : Nat) (v v' : Value) (h : expand sc fuel v = .ok v') :
    hasRef v' = false := by
  induction fuel generalizing v with
  | zero =>
    unfold expand at h
    split at h
    · cases h
    next hr => cases h; exact eq_false_of_ne_true hr
  | succ k ih =>
    unfold expand at h
    split at h
    · split at h
      · exact ih _ h
      · cases h
    next hr => cases h; exact eq_false_of_ne_true hr

theorem litText_of_noRef (v : Value) (h : hasRef v = false) :
    v = (litText v).map VTok.lit := by
  induction v with
  | nil => rfl
  | cons t r ih =>
    cases t with
    | lit s => simp only [hasRef] at h; simp only [litText, List.map_cons]; rw [← ih h]
    | ref n => simp [hasRef] at h

/-- on the names of `S`, every binding of `gsc` is a binding of `env` (pass G sees a part of the
    hoisted environment) -/
def Sub (S : List String) (gsc env : Scope) : Prop :=
  ∀ n ∈ S, ∀ v, lookup gsc n = some v → lookup env n = some v

/-- pass E sees the hoisted environment itself, on the names of `S` -/
def Agree (S : List String) (esc env : Scope) : Prop :=
  ∀ n ∈ S, lookup esc n = lookup env n

/-- every binding of `env` is one of `defs` (which will be the definitions of the whole program) -/
def ValIn (defs : List (String × Value)) (env : Scope) : Prop :=
  ∀ n v, lookup env n = some v → (n, v) ∈ defs

/-- `S` contains the references of the value of each of its names -/
def Closed (defs : List (String × Value)) (S : List String) : Prop :=
  ∀ n ∈ S, ∀ v, (n, v) ∈ defs → ∀ r ∈ refsOf v, r ∈ S

theorem Sub.mono {S S' : List String} {gsc env : Scope} (h : Sub S gsc env)
    (hs : ∀ n ∈ S', n ∈ S) : Sub S' gsc env := fun n hn => h n (hs n hn)

theorem Agree.mono {S S' : List String} {esc env : Scope} (h : Agree S esc env)
    (hs : ∀ n ∈ S', n ∈ S) : Agree S' esc env := fun n hn => h n (hs n hn)

theorem Agree.sub {S : List String} {esc env : Scope} (h : Agree S esc env) : Sub S esc env :=
  fun n hn _ hv => h n hn ▸ hv

theorem Sub.push {S : List String} {gsc env : Scope} (h : Sub S gsc env) (f F : Frame)
    (hf : ∀ n ∈ S, F.get n = f.get n) : Sub S (f :: gsc) (F :: env) := by
  intro n hn v
  simp only [lookup, hf n hn]
  cases f.get n with
  | some w => exact id
  | none => exact h n hn v

theorem Agree.push {S : List String} {esc env : Scope} (h : Agree S esc env) (f F : Frame)
    (hf : ∀ n ∈ S, F.get n = f.get n) : Agree S (f :: esc) (F :: env) := by
  intro n hn
  simp only [lookup, hf n hn]
  cases f.get n with
  | some w => rfl
  | none => exact h n hn

theorem ValIn.push {defs : List (String × Value)} {env : Scope} (h : ValIn defs env) (F : Frame)
    (hF : ∀ n v, F.get n = some v → (n, v) ∈ defs) : ValIn defs (F :: env) := by
  intro n v
  simp only [lookup]
  cases hg : F.get n with
  | some w => intro hw; cases hw; exact hF n _ hg
  | none => exact h n v

/-- What two runs of one computation return when the first scope has, on `S`, only bindings of the second:
    the same, or the first run stopped at a name of `S` that only the second scope binds.  Between scopes
    that agree on `S` this is congruence, errors included (`Below.eq`); on a run that succeeds in the
    smaller scope it is monotonicity (`Below.ok`). -/
def Below (S : List String) (sc₁ sc₂ : Scope) {α : Type} (r₁ r₂ : Except Err α) : Prop :=
  r₁ = r₂ ∨ ∃ n ∈ S, lookup sc₁ n = none ∧ lookup sc₂ n ≠ none ∧ r₁ = .error (.unknownVar n)

theorem Below.eq {S : List String} {sc₁ sc₂ : Scope} {α : Type} {r₁ r₂ : Except Err α}
    (h : Below S sc₁ sc₂ r₁ r₂) (hA : Agree S sc₁ sc₂) : r₁ = r₂ :=
  h.elim id fun ⟨n, hn, h1, h2, _⟩ => absurd ((hA n hn).symm.trans h1) h2

theorem Below.ok {S : List String} {sc₁ sc₂ : Scope} {α : Type} {r₁ r₂ : Except Err α}
    (h : Below S sc₁ sc₂ r₁ r₂) {x : α} (hx : r₁ = .ok x) : r₂ = .ok x :=
  h.elim (fun e => e ▸ hx) fun ⟨_, _, _, _, e⟩ => nomatch hx.symm.trans e

theorem Below.bind {S : List String} {sc₁ sc₂ : Scope} {α β : Type} {r₁ r₂ : Except Err α}
    {f₁ f₂ : α → Except Err β} (h : Below S sc₁ sc₂ r₁ r₂)
    (hf : ∀ x, r₂ = .ok x → Below S sc₁ sc₂ (f₁ x) (f₂ x)) :
    Below S sc₁ sc₂ (r₁ >>= f₁) (r₂ >>= f₂) := by
  rcases h with rfl | ⟨n, hn, h1, h2, rfl⟩
  · cases r₁ with
    | error e => exact .inl rfl
    | ok x => exact hf x rfl
  · exact .inr ⟨n, hn, h1, h2, rfl⟩

theorem substOnce_below {S : List String} {sc₁ sc₂ : Scope} (hS : Sub S sc₁ sc₂) (v : Value) :
    (∀ n ∈ refsOf v, n ∈ S) → Below S sc₁ sc₂ (substOnce sc₁ v) (substOnce sc₂ v) := by
  induction v with
  | nil => exact fun _ => .inl rfl
  | cons t r ih =>
    intro h
    cases t with
    | lit s => exact (ih h).bind fun _ _ => .inl rfl
    | ref n =>
      have hn : n ∈ S := h n List.mem_cons_self
      have ih := ih fun m hm => h m (List.mem_cons_of_mem _ hm)
      simp only [substOnce]
      cases h1 : lookup sc₁ n with
      | some w => rw [hS n hn w h1]; exact ih.bind fun _ _ => .inl rfl
      | none =>
        cases h2 : lookup sc₂ n with
        | none => exact .inl rfl
        | some w => exact .inr ⟨n, hn, h1, by simp [h2], rfl⟩

theorem substOnce_congr (sc1 sc2 : Scope) (S : List String)
    (hA : ∀ n ∈ S, lookup sc1 n = lookup sc2 n) :
    ∀ v : Value, (∀ n ∈ refsOf v, n ∈ S) → substOnce sc1 v = substOnce sc2 v :=
  fun v h => (substOnce_below (Agree.sub hA) v h).eq hA

theorem substOnce_refsOf (sc : Scope) : ∀ v v' : Value, substOnce sc v = .ok v' →
    ∀ m ∈ refsOf v', ∃ n ∈ refsOf v, ∃ w, lookup sc n = some w ∧ m ∈ refsOf w := by
  intro v
  induction v with
  | nil => intro v' h; cases h; exact fun _ hm => nomatch hm
  | cons t r ih =>
    intro v' h m hm
    cases t with
    | lit s =>
      obtain ⟨r', hr, h⟩ := Except.bind_eq_ok.mp h
      cases h
      exact ih r' hr m hm
    | ref n =>
      simp only [substOnce] at h
      cases hl : lookup sc n with
      | none => rw [hl] at h; cases h
      | some w =>
        rw [hl] at h
        obtain ⟨r', hr, h⟩ := Except.bind_eq_ok.mp h
        cases h
        rw [refsOf_append] at hm
        rcases List.mem_append.mp hm with hm | hm
        · exact ⟨n, List.mem_cons_self, w, hl, hm⟩
        · obtain ⟨k, hk, hw⟩ := ih r' hr m hm
          exact ⟨k, List.mem_cons_of_mem _ hk, hw⟩

theorem Closed.substOnce {defs : List (String × Value)} {S : List String} {sc : Scope}
    (hC : Closed defs S) (hV : ValIn defs sc) {v v' : Value} (h : ∀ n ∈ refsOf v, n ∈ S)
    (hs : substOnce sc v = .ok v') : ∀ n ∈ refsOf v', n ∈ S := by
  intro m hm
  obtain ⟨n, hn, w, hw, hmw⟩ := substOnce_refsOf sc v v' hs m hm
  exact hC n (h n hn) w (hV n w hw) m hmw

theorem expand_succ (sc : Scope) (fuel : Nat) (v : Value) :
    expand sc (fuel + 1) v = if hasRef v then substOnce sc v >>= expand sc fuel else .ok v := by
  simp only [expand]; cases substOnce sc v <;> rfl

theorem resolveSel_interp (sc : Scope) (n : String) (r : List STok) :
    resolveSel sc (.interp n :: r) =
      expand sc 64 [.ref n] >>= fun v => resolveSel sc r >>= fun r' => pure (litText v ++ r') := by
  simp only [resolveSel]; cases expand sc 64 [.ref n] <;> rfl

theorem expand_below {defs : List (String × Value)} {S : List String} {sc₁ sc₂ : Scope}
    (hS : Sub S sc₁ sc₂) (hV : ValIn defs sc₂) (hC : Closed defs S) (fuel : Nat) :
    ∀ v : Value, (∀ n ∈ refsOf v, n ∈ S) →
      Below S sc₁ sc₂ (expand sc₁ fuel v) (expand sc₂ fuel v) := by
  induction fuel with
  | zero => exact fun _ _ => .inl rfl
  | succ k ih =>
    intro v h
    rw [expand_succ, expand_succ]
    split
    · exact (substOnce_below hS v h).bind fun v' hs => ih v' (hC.substOnce hV h hs)
    · exact .inl rfl

theorem resolveSel_below {defs : List (String × Value)} {S : List String} {sc₁ sc₂ : Scope}
    (hS : Sub S sc₁ sc₂) (hV : ValIn defs sc₂) (hC : Closed defs S) (sel : List STok) :
    (∀ n ∈ interpsOf sel, n ∈ S) →
      Below S sc₁ sc₂ (resolveSel sc₁ sel) (resolveSel sc₂ sel) := by
  induction sel with
  | nil => exact fun _ => .inl rfl
  | cons t r ih =>
    intro h
    cases t with
    | lit s => exact (ih h).bind fun _ _ => .inl rfl
    | interp n =>
      rw [resolveSel_interp, resolveSel_interp]
      exact (expand_below hS hV hC 64 [.ref n] fun m hm => by
          rw [List.mem_singleton.mp hm]; exact h n List.mem_cons_self).bind fun _ _ =>
        (ih fun m hm => h m (List.mem_cons_of_mem _ hm)).bind fun _ _ => .inl rfl

/-! ### names reachable through definitions: `closure defs defs.length` is a fix-point -/

theorem mem_stepReach (defs : List (String × Value)) (ns : List String) (r : String) :
    r ∈ stepReach defs ns ↔ r ∈ ns ∨ ∃ n v, (n, v) ∈ defs ∧ n ∈ ns ∧ r ∈ refsOf v := by
  simp only [stepReach, List.mem_append, List.mem_flatMap, List.mem_filter, List.contains_iff_mem,
    Prod.exists, and_assoc]

theorem stepReach_nil (defs : List (String × Value)) : stepReach defs [] = [] := by
  simp [stepReach]

theorem closure_nil (defs : List (String × Value)) (k : Nat) : closure defs k [] = [] := by
  induction k with
  | zero => rfl
  | succ k ih => rw [closure, stepReach_nil, ih]

theorem subset_closure (defs : List (String × Value)) (k : Nat) :
    ∀ ns : List String, ∀ n ∈ ns, n ∈ closure defs k ns := by
  induction k with
  | zero => exact fun _ _ h => h
  | succ k ih => exact fun ns n h => ih _ n ((mem_stepReach defs ns n).mpr (.inl h))

theorem closure_mono (defs : List (String × Value)) (k : Nat) :
    ∀ ns ns' : List String, (∀ n ∈ ns, n ∈ ns') →
      ∀ n ∈ closure defs k ns, n ∈ closure defs k ns' := by
  induction k with
  | zero => exact fun _ _ h => h
  | succ k ih =>
    refine fun ns ns' h => ih _ _ fun r hr => ?_
    rw [mem_stepReach] at hr ⊢
    exact hr.imp (h r) fun ⟨n, v, h1, h2, h3⟩ => ⟨n, v, h1, h n h2, h3⟩

/-- the definitions whose name is not in `ns`: the measure of `closure_closed_aux` -/
def missing (defs : List (String × Value)) (ns : List String) : List (String × Value) :=
  defs.filter (fun d => !ns.contains d.1)

/-- a larger set misses a sub-list of the definitions: if it misses no fewer, every defined name in it
    was there already -/
theorem missing_stable (defs : List (String × Value)) (ns ns' : List String)
    (h : ∀ n ∈ ns, n ∈ ns') (hle : (missing defs ns).length ≤ (missing defs ns').length) :
    ∀ d ∈ defs, d.1 ∈ ns' → d.1 ∈ ns := by
  have e : missing defs ns' = (missing defs ns).filter (fun d => !ns'.contains d.1) := by
    unfold missing
    rw [List.filter_filter]
    refine List.filter_congr (fun d _ => ?_)
    by_cases hd : d.1 ∈ ns
    · simp [hd, h _ hd]
    · simp [hd]
  rw [e] at hle
  refine fun d hd hd' => Classical.byContradiction fun hn => ?_
  have hm : d ∈ missing defs ns := List.mem_filter.mpr ⟨hd, by simpa using hn⟩
  rw [← (List.filter_sublist ..).eq_of_length_le hle] at hm
  simpa [hd'] using (List.mem_filter.mp hm).2

theorem Closed.of_stable {defs : List (String × Value)} {ns : List String}
    (h : ∀ d ∈ defs, d.1 ∈ stepReach defs ns → d.1 ∈ ns) : Closed defs (stepReach defs ns) :=
  fun n hn v hv r hr => (mem_stepReach defs ns r).mpr (.inr ⟨n, v, hv, h (n, v) hv hn, hr⟩)

/-- `k` rounds close `ns` if fewer than `k` definitions are missing from it: a round that does not
    lower that number has found no new defined name, so its result is closed (`missing_stable`,
    `Closed.of_stable`) and stays so -/
theorem closure_closed_aux (defs : List (String × Value)) (k : Nat) :
    ∀ ns : List String, ((missing defs ns).length < k ∨ Closed defs ns) →
      Closed defs (closure defs k ns) := by
  induction k with
  | zero => exact fun ns h => h.resolve_left (Nat.not_lt_zero _)
  | succ k ih =>
    refine fun ns h => ih _ ?_
    rcases h with h | h
    · by_cases he : (missing defs ns).length ≤ (missing defs (stepReach defs ns)).length
      · exact .inr (.of_stable (missing_stable defs ns _
          (fun n hn => (mem_stepReach defs ns n).mpr (.inl hn)) he))
      · exact .inl (Nat.lt_of_lt_of_le (Nat.lt_of_not_le he) (Nat.le_of_lt_succ h))
    · exact .inr (.of_stable fun d _ hs => ((mem_stepReach defs ns d.1).mp hs).elim id
        fun ⟨n, v, h1, h2, h3⟩ => h n h2 v h1 d.1 h3)

/-- the names reachable from `ns` (what `VarOK` quantifies over) -/
abbrev reach (defs : List (String × Value)) (ns : List String) : List String :=
  closure defs defs.length ns

/-- **the closure used by `VarOK` is a fix-point**: `defs.length` rounds suffice. -/
theorem reach_closed (defs : List (String × Value)) (ns : List String) :
    Closed defs (reach defs ns) := by
  apply closure_closed_aux
  by_cases h : (missing defs ns).length < defs.length
  · exact .inl h
  · -- all definitions are missing: no name of `ns` is defined
    have h2 := missing_stable defs [] ns (fun _ hn => nomatch hn)
      (Nat.le_trans (List.length_filter_le _ _) (Nat.le_of_not_lt h))
    exact .inr (fun n hn v hv => nomatch h2 (n, v) hv hn)

/-- what an item does to the frame of its block: in pass G, in pass E and in `blockDefsAux` -/
def fstep : Frame → Item → Frame
  | f, .vdef n v => f.set n v
  | f, _ => f

theorem blockDefsAux_cons (f : Frame) (i : Item) (is : List Item) :
    blockDefsAux f (i :: is) = blockDefsAux (fstep f i) is := by
  cases i <;> rfl

theorem passG_fst (f : Frame) (sc : Scope) (i : Item) : (passG (f :: sc) i).1 = fstep f i :: sc := by
  cases i <;> rfl

theorem passGList_cons (gsc : Scope) (i : Item) (is : List Item) :
    passGList gsc (i :: is) =
      ((passGList (passG gsc i).1 is).1, (passG gsc i).2 :: (passGList (passG gsc i).1 is).2) := by
  simp [passGList]

theorem passGList_fst (f : Frame) (sc : Scope) :
    ∀ is : List Item, (passGList (f :: sc) is).1 = blockDefsAux f is :: sc := by
  intro is
  induction is generalizing f with
  | nil => simp [passGList, blockDefsAux]
  | cons i is ih =>
    rw [passGList_cons, passG_fst, blockDefsAux_cons]
    exact ih _

theorem blockDefsAux_get_of_not_defined (n : String) :
    ∀ (is : List Item) (f : Frame), n ∉ definedNames is → (blockDefsAux f is).get n = f.get n := by
  intro is
  induction is with
  | nil => intro f _; rfl
  | cons i is ih =>
    intro f h
    cases i with
    | vdef m w =>
      simp only [definedNames, List.mem_cons, not_or] at h
      simp only [blockDefsAux]
      rw [ih _ h.2, Frame.get_set_ne _ h.1]
    | _ => exact ih f h

theorem blockDefsAux_get_some (n : String) (v : Value) :
    ∀ (is : List Item) (f : Frame), (blockDefsAux f is).get n = some v →
      f.get n = some v ∨ (n, v) ∈ allDefsList is := by
  intro is
  induction is with
  | nil => intro f h; exact Or.inl h
  | cons i is ih =>
    intro f h
    rw [blockDefsAux_cons] at h
    refine (ih _ h).elim (fun h => ?_) fun h => Or.inr (by simp [allDefsList, h])
    cases i with
    | vdef m w =>
      by_cases hm : n = m
      · subst hm
        rw [fstep, Frame.get_set_self] at h
        cases h
        exact Or.inr (by simp [allDefsList, allDefs])
      · rw [fstep, Frame.get_set_ne _ hm] at h
        exact Or.inl h
    | _ => exact Or.inl h

theorem blockDefs_get_some {n : String} {v : Value} {is : List Item}
    (h : (blockDefsAux [] is).get n = some v) : (n, v) ∈ allDefsList is :=
  (blockDefsAux_get_some n v is [] h).resolve_left (by simp [Frame.get])

theorem definedNames_append (a b : List Item) :
    definedNames (a ++ b) = definedNames a ++ definedNames b := by
  induction a with
  | nil => rfl
  | cons i a ih => cases i <;> simp [definedNames, ih]

theorem reach_vdef (defs : List (String × Value)) (m : String) (w : Value) :
    reach defs (usesOf (.vdef m w)) = [] :=
  closure_nil defs _

theorem blockOK_cons (defs : List (String × Value)) (i : Item) (rest : List Item)
    (h : blockOKAux defs (i :: rest) = true) :
    (∀ n ∈ reach defs (usesOf i), n ∉ definedNames rest) ∧ blockOKAux defs rest = true := by
  simp only [blockOKAux, Bool.and_eq_true] at h
  refine ⟨fun n hn => ?_, h.2⟩
  cases i with
  | vdef m w => rw [reach_vdef] at hn; cases hn
  | _ => simpa using List.all_eq_true.mp h.1 n hn

theorem topOK_cons (defs : List (String × Value)) (before : List Item) (i : Item) (rest : List Item)
    (h : topOKAux defs before (i :: rest) = true) :
    (∀ n ∈ reach defs (usesOf i), n ∈ definedNames before → n ∉ definedNames rest) ∧
      topOKAux defs (before ++ [i]) rest = true := by
  simp only [topOKAux, Bool.and_eq_true] at h
  refine ⟨fun n hn h1 h2 => ?_, h.2⟩
  cases i with
  | vdef m w => rw [reach_vdef] at hn; cases hn
  | _ => simpa [h1, h2] using List.all_eq_true.mp h.1 n hn

theorem passG_rule (gsc : Scope) (sel : List STok) (body : List Item) :
    (passG gsc (.rule sel body)).2 =
      .rule sel (match resolveSel ([] :: gsc) sel with | .ok s => some s | .error _ => none)
        (passGList ([] :: gsc) body).2 := by
  simp only [passG]
  rfl

/-- the name of a rule in pass E: the grammar-time result if there is one, else resolved now -/
def ruleName (es : Scope) (sel : List STok) : Option (List String) → Except Err (List String)
  | some s => .ok s
  | none => resolveSel ([] :: es) sel

theorem passEItem_rule (fuel : Nat) (es : Scope) (path : List (List String)) (sel : List STok)
    (res : Option (List String)) (body : List GItem) :
    passEItem fuel es path (.rule sel res body) =
      (ruleName es sel res >>= fun name =>
        (passEList fuel ([] :: es) (path ++ [name]) body) >>= fun r =>
          pure (es, [], (if r.2.1.isEmpty then [] else [⟨path ++ [name], r.2.1⟩]) ++ r.2.2)) := by
  simp only [passEItem]
  cases res <;> rfl

theorem specItem_rule (fuel : Nat) (env : Scope) (path : List (List String)) (sel : List STok)
    (body : List Item) :
    specItem fuel env path (.rule sel body) =
      (resolveSel env sel >>= fun name =>
        (specList fuel (blockDefsAux [] body :: env) (path ++ [name]) body) >>= fun r =>
          pure ([], (if r.1.isEmpty then [] else [⟨path ++ [name], r.1⟩]) ++ r.2)) := by
  simp only [specItem, blockDefs]

theorem passEList_cons (fuel : Nat) (es : Scope) (path : List (List String)) (i : GItem)
    (is : List GItem) :
    passEList fuel es path (i :: is) =
      (passEItem fuel es path i >>= fun r1 =>
        passEList fuel r1.1 path is >>= fun r2 =>
          pure (r2.1, r1.2.1 ++ r2.2.1, r1.2.2 ++ r2.2.2)) := by
  simp only [passEList]

theorem specList_cons (fuel : Nat) (env : Scope) (path : List (List String)) (i : Item)
    (is : List Item) :
    specList fuel env path (i :: is) =
      (specItem fuel env path i >>= fun r1 =>
        specList fuel env path is >>= fun r2 =>
          pure (r1.1 ++ r2.1, r1.2 ++ r2.2)) := by
  simp only [specList]

theorem fstep_get_reach (defs : List (String × Value)) (f : Frame) (i : Item) (rest : List Item)
    {n : String} (hn : n ∈ reach defs (usesOf i)) (h : n ∉ definedNames rest) :
    (blockDefsAux (fstep f i) rest).get n = f.get n := by
  cases i with
  | vdef m w => rw [reach_vdef] at hn; cases hn
  | _ => exact blockDefsAux_get_of_not_defined n rest f h

theorem passEList_step {fuel : Nat} {gf ef : Frame} {gs es env es' : Scope} {path : List (List String)}
    {i : Item} {is : List Item}
    (h1 : passEItem fuel (ef :: es) path (passG (gf :: gs) i).2
      = (specItem fuel env path i).map fun r => (fstep ef i :: es, r.1, r.2))
    (h2 : passEList fuel (fstep ef i :: es) path (passGList (fstep gf i :: gs) is).2
      = (specList fuel env path is).map fun r => (es', r.1, r.2)) :
    passEList fuel (ef :: es) path (passGList (gf :: gs) (i :: is)).2
      = (specList fuel env path (i :: is)).map fun r => (es', r.1, r.2) := by
  rw [passGList_cons, passEList_cons, specList_cons, h1, passG_fst]
  cases specItem fuel env path i with
  | error e => rfl
  | ok r1 =>
    simp only [Except.map, bind, Except.bind, h2]
    cases specList fuel env path is <;> rfl

mutual
theorem model_item (fuel : Nat) (defs : List (String × Value)) :
    ∀ (i : Item) (gf ef : Frame) (gsc esc env : Scope) (path : List (List String)),
      blocksOK defs i = true → (∀ d ∈ allDefs i, d ∈ defs) → ValIn defs env →
      Sub (reach defs (usesOf i)) (gf :: gsc) env → Agree (reach defs (usesOf i)) (ef :: esc) env →
      passEItem fuel (ef :: esc) path (passG (gf :: gsc) i).2
        = (specItem fuel env path i).map (fun r => (fstep ef i :: esc, r.1, r.2))
  | .decl p v => by
      intro gf ef gsc esc env path _ _ hV _ hA
      simp only [passG, passEItem, specItem, fstep]
      rw [(expand_below hA.sub hV (reach_closed defs _) fuel v (subset_closure defs defs.length _)).eq hA]
      cases expand env fuel v <;> rfl
  | .vdef n v => by intros; rfl
  | .rule sel body => by
      intro gf ef gsc esc env path hB hD hV hS hA
      simp only [blocksOK, Bool.and_eq_true] at hB
      rw [passG_rule, passEItem_rule, specItem_rule]
      have hsel : ∀ n ∈ interpsOf sel, n ∈ reach defs (usesOf (.rule sel body)) :=
        fun n hn => subset_closure defs defs.length _ n (List.mem_append_left _ hn)
      have hcl := reach_closed defs (usesOf (.rule sel body))
      have hname : ruleName (ef :: esc) sel (match resolveSel ([] :: gf :: gsc) sel with
                      | .ok s => some s | .error _ => none) = resolveSel env sel := by
        -- `lookup ([] :: sc)` is `lookup sc` by computation
        have hS' : Sub _ ([] :: gf :: gsc) env := hS
        have hA' : Agree _ ([] :: ef :: esc) env := hA
        cases hg : resolveSel ([] :: gf :: gsc) sel with
        | ok s => exact ((resolveSel_below hS' hV hcl sel hsel).ok hg).symm
        | error e => exact (resolveSel_below hA'.sub hV hcl sel hsel).eq hA'
      rw [hname]
      cases resolveSel env sel with
      | error e => rfl
      | ok name =>
        have hbody := closure_mono defs defs.length (usesOfList body) (usesOf (.rule sel body))
          fun _ => List.mem_append_right _
        have := model_list fuel defs body [] (gf :: gsc) (ef :: esc) env (path ++ [name]) hB.1 hB.2
          (fun d hd => hD d (by simpa [allDefs] using hd))
          (hV.push _ (fun n v hg => hD _ (by simpa [allDefs] using blockDefs_get_some hg)))
          (hS.mono hbody) (hA.mono hbody)
        simp only [bind, Except.bind, this]
        cases specList fuel (blockDefsAux [] body :: env) (path ++ [name]) body <;> rfl
theorem model_list (fuel : Nat) (defs : List (String × Value)) :
    ∀ (is : List Item) (f : Frame) (gs es env : Scope) (path : List (List String)),
      blockOKAux defs is = true → blocksOKList defs is = true →
      (∀ d ∈ allDefsList is, d ∈ defs) → ValIn defs (blockDefsAux f is :: env) →
      Sub (reach defs (usesOfList is)) gs env → Agree (reach defs (usesOfList is)) es env →
      passEList fuel (f :: es) path (passGList (f :: gs) is).2
        = (specList fuel (blockDefsAux f is :: env) path is).map
            (fun r => (blockDefsAux f is :: es, r.1, r.2))
  | [] => by intros; rfl
  | i :: is => by
      intro f gs es env path hB hBs hD hV hS hA
      obtain ⟨hB1, hB2⟩ := blockOK_cons defs i is hB
      simp only [blocksOKList, Bool.and_eq_true] at hBs
      rw [blockDefsAux_cons] at hV ⊢
      have hget := fun n hn => fstep_get_reach defs f i is hn (hB1 n hn)
      have hhead := closure_mono defs defs.length (usesOf i) (usesOfList (i :: is))
        fun _ => List.mem_append_left _
      have htail := closure_mono defs defs.length (usesOfList is) (usesOfList (i :: is))
        fun _ => List.mem_append_right _
      exact passEList_step
        (model_item fuel defs i f f gs es _ path hBs.1
          (fun d hd => hD d (List.mem_append_left _ hd)) hV
          ((hS.mono hhead).push f _ hget) ((hA.mono hhead).push f _ hget))
        (model_list fuel defs is (fstep f i) gs es env path hB2 hBs.2
          (fun d hd => hD d (List.mem_append_right _ hd)) hV (hS.mono htail) (hA.mono htail))
end

/-- top level: the pass-G frame `gf` holds the definitions before the current unit, the pass-E frame
    `ef` is "last definition overall, overridden by the definitions before the current unit" -/
theorem model_top (fuel : Nat) (defs : List (String × Value)) :
    ∀ (rest before : List Item) (gf ef : Frame) (path : List (List String)),
      topOKAux defs before rest = true → blocksOKList defs rest = true →
      (∀ d ∈ allDefsList rest, d ∈ defs) → ValIn defs [blockDefsAux gf rest] →
      (∀ n v, gf.get n = some v → n ∈ definedNames before) →
      (∀ n, ef.get n = match gf.get n with
                       | some v => some v
                       | none => (blockDefsAux gf rest).get n) →
      passEList fuel [ef] path (passGList [gf] rest).2
        = (specList fuel [blockDefsAux gf rest] path rest).map
            (fun r => ([blockDefsAux ef rest], r.1, r.2)) := by
  intro rest
  induction rest with
  | nil => intros; rfl
  | cons i is ih =>
    intro before gf ef path hT hBs hD hV hG hE
    obtain ⟨hT1, hT2⟩ := topOK_cons defs before i is hT
    simp only [blocksOKList, Bool.and_eq_true] at hBs
    rw [blockDefsAux_cons] at hV hE ⊢
    -- the goal holds the term for `gf` and for `ef`, and `rw` takes the instances of one at a time
    rw [blockDefsAux_cons]
    -- a name reachable from unit `i` and bound in the pass-G frame has its final binding there
    have hfin : ∀ n ∈ reach defs (usesOf i), ∀ v, gf.get n = some v →
        (blockDefsAux (fstep gf i) is).get n = some v :=
      fun n hn v hv => by rw [fstep_get_reach defs gf i is hn (hT1 n hn (hG n v hv)), hv]
    have hS : Sub (reach defs (usesOf i)) [gf] [blockDefsAux (fstep gf i) is] := by
      intro n hn v hv
      rw [lookup_singleton] at hv ⊢
      exact hfin n hn v hv
    have hA : Agree (reach defs (usesOf i)) [ef] [blockDefsAux (fstep gf i) is] := by
      intro n hn
      rw [lookup_singleton, lookup_singleton, hE n]
      cases hg : gf.get n with
      | none => rfl
      | some w => exact (hfin n hn w hg).symm
    refine passEList_step
      (model_item fuel defs i gf ef [] [] _ path hBs.1 (fun d hd => hD d (List.mem_append_left _ hd)) hV
        hS hA)
      (ih (before ++ [i]) (fstep gf i) (fstep ef i) path hT2 hBs.2
        (fun d hd => hD d (List.mem_append_right _ hd)) hV ?_ ?_)
    · intro n v hv
      rw [definedNames_append]
      cases i with
      | vdef m w =>
        by_cases hm : n = m
        · subst hm; simp [definedNames]
        · rw [fstep, Frame.get_set_ne _ hm] at hv
          exact List.mem_append_left _ (hG n v hv)
      | _ => exact List.mem_append_left _ (hG n v hv)
    · intro n
      cases i with
      | vdef m w =>
        simp only [fstep] at hE ⊢
        by_cases hm : n = m
        · subst hm; simp [Frame.get_set_self]
        · rw [Frame.get_set_ne _ hm, Frame.get_set_ne _ hm]; exact hE n
      | _ => exact hE n

mutual
/-- the declarations `(property, value)` written anywhere in an item -/
def declsOf : Item → List (String × Value)
  | .decl p v => [(p, v)]
  | .vdef _ _ => []
  | .rule _ body => declsOfList body
def declsOfList : List Item → List (String × Value)
  | [] => []
  | i :: is => declsOf i ++ declsOfList is
end

mutual
def gDecls : GItem → List (String × Value)
  | .decl p v => [(p, v)]
  | .vdef _ _ => []
  | .rule _ _ body => gDeclsList body
def gDeclsList : List GItem → List (String × Value)
  | [] => []
  | i :: is => gDecls i ++ gDeclsList is
end

mutual
theorem gDecls_passG : ∀ (i : Item) (gsc : Scope), gDecls (passG gsc i).2 = declsOf i
  | .decl p v, _ => rfl
  | .vdef n v, _ => rfl
  | .rule sel body, gsc => by
      rw [passG_rule]
      simp only [gDecls, declsOf]
      exact gDeclsList_passGList body _
theorem gDeclsList_passGList : ∀ (is : List Item) (gsc : Scope),
    gDeclsList (passGList gsc is).2 = declsOfList is
  | [], _ => rfl
  | i :: is, gsc => by
      rw [passGList_cons]
      simp only [gDeclsList, declsOfList]
      rw [gDecls_passG i gsc, gDeclsList_passGList is _]
end

/-- an output declaration `d = (property, strings)` is *literal and sourced*: its strings, read as
    literal tokens, are the successful substitution of a source declaration of that property -/
def LitDecl (fuel : Nat) (src : List (String × Value)) (d : String × List String) : Prop :=
  ∃ sc v, (d.1, v) ∈ src ∧ expand sc fuel v = .ok (d.2.map VTok.lit)

mutual
theorem passEItem_lit (fuel : Nat) (src : List (String × Value)) :
    ∀ (g : GItem) (es : Scope) (path : List (List String))
      (r : Scope × List (String × List String) × List OutRule),
      (∀ x ∈ gDecls g, x ∈ src) → passEItem fuel es path g = .ok r →
      (∀ d ∈ r.2.1, LitDecl fuel src d) ∧ ∀ o ∈ r.2.2, ∀ d ∈ o.decls, LitDecl fuel src d
  | .decl p v => by
      intro es path r hsrc h
      obtain ⟨v', he, h⟩ := Except.bind_eq_ok.mp h
      cases h
      refine ⟨fun d hd => ?_, List.forall_mem_nil _⟩
      cases List.mem_singleton.mp hd
      refine ⟨es, v, hsrc _ List.mem_cons_self, ?_⟩
      rw [he, ← litText_of_noRef v' (C03_no_ref es fuel v v' he)]
  | .vdef n v => by
      intro es path r _ h
      cases h
      exact ⟨List.forall_mem_nil _, List.forall_mem_nil _⟩
  | .rule sel res body => by
      intro es path r hsrc h
      rw [passEItem_rule] at h
      obtain ⟨name, _, h⟩ := Except.bind_eq_ok.mp h
      obtain ⟨rb, hb, h⟩ := Except.bind_eq_ok.mp h
      cases h
      obtain ⟨ih1, ih2⟩ := passEList_lit fuel src body _ _ rb hsrc hb
      refine ⟨List.forall_mem_nil _, fun o ho => ?_⟩
      rcases List.mem_append.mp ho with ho | ho
      · split at ho
        · cases ho
        · cases List.mem_singleton.mp ho
          exact ih1
      · exact ih2 o ho
theorem passEList_lit (fuel : Nat) (src : List (String × Value)) :
    ∀ (gs : List GItem) (es : Scope) (path : List (List String))
      (r : Scope × List (String × List String) × List OutRule),
      (∀ x ∈ gDeclsList gs, x ∈ src) → passEList fuel es path gs = .ok r →
      (∀ d ∈ r.2.1, LitDecl fuel src d) ∧ ∀ o ∈ r.2.2, ∀ d ∈ o.decls, LitDecl fuel src d
  | [] => by
      intro es path r _ h
      cases h
      exact ⟨List.forall_mem_nil _, List.forall_mem_nil _⟩
  | g :: gs => by
      intro es path r hsrc h
      rw [passEList_cons] at h
      obtain ⟨r1, h1, h⟩ := Except.bind_eq_ok.mp h
      obtain ⟨r2, h2, h⟩ := Except.bind_eq_ok.mp h
      cases h
      simp only [gDeclsList, List.forall_mem_append] at hsrc ⊢
      obtain ⟨a1, a2⟩ := passEItem_lit fuel src g es path r1 hsrc.1 h1
      obtain ⟨b1, b2⟩ := passEList_lit fuel src gs r1.1 path r2 hsrc.2 h2
      exact ⟨⟨a1, b1⟩, a2, b2⟩
end

end Lessm.Vars
