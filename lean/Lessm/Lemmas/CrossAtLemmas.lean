/-
  Cross-model consistency, at-rules: the at-rule model (`Lessm.AtRule`) against the media model
  (`Lessm.Media`) on their common fragment.  Definitions and the lemmas behind
  Lessm/Props/CrossAt.lean.

  What the two models share:

    AtRule  flat rules `sel { decls }` (the selector is ONE opaque string, values evaluated by a
            parameter `ev`), `@media q { … }` (the query is ONE opaque string), statements, keyframes,
            `@font-face`-like blocks; empty rules and empty blocks are dropped.  An `@media` inside an
            `@media` stays nested.
    Media   rules with token-list selectors (`identParse`), declarations with literal values, `@media`
            with token-list queries; media blocks bubble out of rules, an `@media` inside an `@media`
            is merged into one `a and b`.

  The overlap: flat rules whose selector is one token that `identParse` leaves alone, at top level or
  directly inside a top-level `@media`.

  In the names A = AtRule and M = Media (`embedAM`, `commonAM`, `declAM`, `obsA…`); in `CrossLemmas`, whose header
  has the whole legend, M is Mixin except in `embedNM`.
-/
import Lessm.Lemmas.CrossLemmas
import Lessm.Model.AtRule

namespace Lessm.Cross
open Lessm.Sel

/-- an AtRule declaration as a Nest declaration, its value evaluated by `ev` -/
def declAM (ev : String → String) (d : AtRule.Decl) : Nest.Decl := ⟨d.prop, ev d.value⟩

mutual
/-- the common fragment embedded in Media: a flat rule `sel { decls }` has the one selector token `sel`,
    an `@media q { … }` block the one query token `q`; anything else (statements, keyframes, @font-face) has
    no counterpart in Media and is left out -/
def embedAMItem (ev : String → String) : AtRule.Item → List Media.Item
  | .rule s ds => [.rule [s] (ds.map (fun d => .decl (declAM ev d)))]
  | .media q body => [.media [q] (embedAM ev body)]
  | _ => []
def embedAM (ev : String → String) : List AtRule.Item → List Media.Item
  | [] => []
  | i :: is => embedAMItem ev i ++ embedAM ev is
end

mutual
/-- an evaluated AtRule tree observed the way `Media.obs` observes a Media tree -/
def obsAItem (ctx : List Media.Query) : AtRule.Item → List Media.Triple
  | .rule s ds => if ds.isEmpty then [] else [⟨ctx, [[s]], ds.map (declAM id)⟩]
  | .media q body => obsAList (ctx ++ [[q]]) body
  | _ => []
def obsAList (ctx : List Media.Query) : List AtRule.Item → List Media.Triple
  | [] => []
  | i :: is => obsAItem ctx i ++ obsAList ctx is
end

/-- a selector string that `Identifier.parse` returns as it is: a plain token (`plainTok`: none of
    `*` `,` `&` `>` `+` `~`, not of the form `?c?`) that is not the blank (a lone blank is filtered
    away: `identParse none [" "] = [[]]`) -/
def plainOne (s : Tok) : Bool := plainTok s && s != " "

mutual
/-- the common fragment: ordinary rules whose selector is one plain token (not the blank), and `@media`
    blocks holding only such rules (AtRule keeps an `@media` inside an `@media` nested; lesscpy merges the
    two queries, which is Media's subject: the two models differ there) -/
def commonAMItem (inMedia : Bool) : AtRule.Item → Bool
  | .rule s _ => plainOne s
  | .media _ body => !inMedia && commonAM true body
  | _ => false
def commonAM (inMedia : Bool) : List AtRule.Item → Bool
  | [] => true
  | i :: is => commonAMItem inMedia i && commonAM inMedia is
end

/-! Both sides are compared with Media's specification (`Media.observe_eq`): on the fragment the
  specification is computed item by item, and nothing has to be said about what the media evaluator
  does with its blocks. -/

theorem identParse_one {s : Tok} (h : plainOne s = true) : identParse none [s] = [[s]] := by
  simp only [plainOne, Bool.and_eq_true, bne_iff_ne, ne_eq] at h
  exact identParse_none_plain (by simp [plainSel, h.1, h.2])

theorem obsAList_append (ctx : List Media.Query) (a b : List AtRule.Item) :
    obsAList ctx (a ++ b) = obsAList ctx a ++ obsAList ctx b := by
  induction a with
  | nil => simp [obsAList]
  | cons x xs ih => simp [obsAList, ih]

/-- a body of declarations only: its declarations, and no output of its own -/
theorem spec_decls (m : Option Media.Query) (p : Option (List Sel)) (f : AtRule.Decl → Nest.Decl)
    (ds : List AtRule.Decl) :
    Media.declsOf (ds.map (fun d => Media.Item.decl (f d))) = ds.map f
      ∧ Media.specUList m p (ds.map (fun d => Media.Item.decl (f d))) = []
      ∧ Media.specBList m p (ds.map (fun d => Media.Item.decl (f d))) = [] := by
  induction ds with
  | nil => exact ⟨rfl, rfl, rfl⟩
  | cons d r ih =>
    obtain ⟨h1, h2, h3⟩ := ih
    simp [Media.declsOf, Media.specUList, Media.specBList, Media.specU, Media.specB, h1, h2, h3]

/-- a flat rule: the at-rule model's observation is the specification of the embedded rule, and nothing
    of it bubbles -/
theorem spec_flatRule (ev : String → String) (m : Option Media.Query) {s : Tok} (ds : List AtRule.Decl)
    (h : plainOne s = true) :
    obsAList (Media.ctxOf m) (AtRule.evalItem ev (.rule s ds))
        = (Media.specU m none (.rule [s] (ds.map (fun d => .decl (declAM ev d))))).map Media.ofS
      ∧ Media.specB m none (.rule [s] (ds.map (fun d => .decl (declAM ev d)))) = [] := by
  obtain ⟨h1, h2, h3⟩ := spec_decls m (some [[s]]) (declAM ev) ds
  simp only [Media.specU, Media.specB, identParse_one h, h1, h2, h3, List.append_nil, Media.map_ofS_own,
    AtRule.evalItem, and_true]
  cases ds <;> simp [obsAList, obsAItem, Media.ownT, AtRule.evalDecls, declAM]

/-- the body of an `@media` of the fragment (rules only), under the condition `m` -/
theorem spec_inMedia (ev : String → String) (m : Option Media.Query) (body : List AtRule.Item)
    (h : commonAM true body = true) :
    Media.declsOf (embedAM ev body) = []
      ∧ obsAList (Media.ctxOf m) (AtRule.evalList ev body)
          = (Media.specUList m none (embedAM ev body)).map Media.ofS
      ∧ Media.specBList m none (embedAM ev body) = [] := by
  induction body with
  | nil => exact ⟨rfl, rfl, rfl⟩
  | cons i is ih =>
    simp only [commonAM, Bool.and_eq_true] at h
    obtain ⟨i1, i2, i3⟩ := ih h.2
    cases i with
    | rule s ds =>
      obtain ⟨r1, r2⟩ := spec_flatRule ev m ds h.1
      simp only [embedAM, embedAMItem, List.singleton_append, Media.declsOf, Media.specUList,
        Media.specBList, AtRule.evalList, obsAList_append, List.map_append, i1, i2, i3, r1, r2,
        List.append_nil, and_self]
    | _ => simp [commonAMItem] at h

theorem spec_commonAM (ev : String → String) (sheet : List AtRule.Item)
    (h : commonAM false sheet = true) :
    obsAList [] (AtRule.evalList ev sheet) = (Media.specSheet (embedAM ev sheet)).map Media.ofS := by
  induction sheet with
  | nil => rfl
  | cons i is ih =>
    simp only [commonAM, Bool.and_eq_true] at h
    have ih := ih h.2
    cases i with
    | rule s ds =>
      obtain ⟨r1, r2⟩ := spec_flatRule ev none ds h.1
      simp only [embedAM, embedAMItem, List.singleton_append, Media.specSheet, AtRule.evalList,
        obsAList_append, List.map_append, ih, r2, List.append_nil]
      rw [← r1]; rfl
    | media q body =>
      simp only [commonAMItem, Bool.not_false, Bool.true_and] at h
      obtain ⟨b1, b2, b3⟩ := spec_inMedia ev (some [q]) body h.1
      -- an `@media` left empty is dropped by the at-rule model and observed as nothing either way
      have hm : obsAList [] (AtRule.evalItem ev (.media q body))
          = obsAList [[q]] (AtRule.evalList ev body) := by
        rw [AtRule.evalItem]
        cases hb : AtRule.evalList ev body <;> simp [obsAList, obsAItem]
      -- the specification of a top-level block is that of its body under the query `[q]` (`b2`), since the body
      -- has no declaration of its own (`b1`) and lets nothing bubble (`b3`)
      simp only [embedAM, embedAMItem, List.singleton_append, Media.specSheet, AtRule.evalList,
        obsAList_append, List.map_append, ih, hm, Media.specU, Media.specB,
        Media.conj, b1, b3, Media.own, List.isEmpty_nil, if_true, List.nil_append, List.append_nil]
      rw [← b2]; rfl
    | _ => simp [commonAMItem] at h

end Lessm.Cross
