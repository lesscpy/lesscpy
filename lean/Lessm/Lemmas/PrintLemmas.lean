/-
  Lemmas for C11: the formatter prints the layout.  The fill table has two shapes, `MF E` (minified) and
  `DF N T` (line break `N`, indentation unit `T`); `roM`, `roD` say what each optional item becomes.  The layout
  of a node is `layFront d n` and one closing item (`layNode_eq`).  Non-minified: re-indenting a realised layout
  realises it with the line break `N ++ T` (`indent_realise`), which is the layout one level deeper with the
  unit moved through (`shift_level`).  Minified: the body of an at-rule block neither begins nor ends with
  whitespace (`edgesM_nodes`), so that `strip` removes its last end-of-block item and nothing else.
-/
import Lessm.Spec.PrintSpec
import Lessm.Lemmas.Basic

namespace Lessm.Print

theorem str_isEmpty_false_of_toList {s : String} {c : Char} {l : List Char} (h : s.toList = c :: l) :
    s.isEmpty = false := by
  cases hs : s.isEmpty with
  | false => rfl
  | true =>
    rw [String.isEmpty_iff] at hs
    subst hs
    simp at h

theorem str_append_isEmpty_false {a : String} (b : String) (h : a.isEmpty = false) :
    (a ++ b).isEmpty = false := by
  rw [Bool.eq_false_iff, ne_eq, String.isEmpty_iff] at h ⊢
  exact fun e => h (String.append_eq_empty_iff.1 e).1

theorem join_nil : String.join [] = "" := rfl

theorem rep_zero (s : String) : rep 0 s = "" := rfl

theorem rep_succ (n : Nat) (s : String) : rep (n + 1) s = s ++ rep n s := by
  simp [rep, List.replicate_succ]

theorem rep_succ' (n : Nat) (s : String) : rep (n + 1) s = rep n s ++ s := by
  induction n with
  | zero => simp [rep_succ, rep_zero]
  | succ n ih => rw [rep_succ, ih, ← String.append_assoc, ← rep_succ, ih]

theorem rep_one (s : String) : rep 1 s = s := by simp [rep_succ, rep_zero]

theorem rep_empty (n : Nat) : rep n "" = "" := by
  induction n with
  | zero => rfl
  | succ n ih => simp [rep_succ, ih]

theorem all_rep {p : Char → Bool} {s : String} (n : Nat) (h : s.toList.all p = true) :
    (rep n s).toList.all p = true := by
  induction n with
  | zero => rfl
  | succ n ih => rw [rep_succ, String.toList_append, List.all_append, h, ih]; rfl

theorem all_unitOf (o : Opts) {p : Char → Bool} (ht : p '\t' = true) (hs : p ' ' = true) :
    (unitOf o).toList.all p = true := by
  unfold unitOf
  split <;> simp [ht, hs]

theorem wsOnly_empty : wsOnly "" = true := by decide

theorem wsOnly_append (a b : String) : wsOnly (a ++ b) = (wsOnly a && wsOnly b) := by
  simp [wsOnly, String.toList_append]

@[simp] theorem realise_nil (f : Fills) : realise f [] = "" := rfl
@[simp] theorem realise_tok (f : Fills) (s : String) (r : List Lay) :
    realise f (.tok s :: r) = s ++ realise f r := rfl
@[simp] theorem realise_opt (f : Fills) (k : OptK) (r : List Lay) :
    realise f (.opt k :: r) = realiseOpt f k ++ realise f r := rfl

theorem realise_append (f : Fills) (l₁ l₂ : List Lay) :
    realise f (l₁ ++ l₂) = realise f l₁ ++ realise f l₂ := by
  induction l₁ with
  | nil => simp
  | cons a l ih => cases a <;> simp [ih, String.append_assoc]

theorem toks_append (l₁ l₂ : List Lay) : toks (l₁ ++ l₂) = toks l₁ ++ toks l₂ := by
  induction l₁ with
  | nil => rfl
  | cons a l ih => cases a <;> simp [toks, ih]

/-! ### the fill table: two shapes -/

/-- the minified fills with end-of-block `E` -/
def MF (E : String) : Fills := ⟨"", "", "", E⟩
/-- the non-minified fills with line break `N` and indentation unit `T` -/
def DF (N T : String) : Fills := ⟨N, T, " ", N⟩

theorem MF_fields (E : String) : (MF E).nl = "" ∧ (MF E).tab = "" ∧ (MF E).ws = "" ∧ (MF E).eb = E :=
  ⟨rfl, rfl, rfl, rfl⟩

theorem DF_fields (N T : String) : (DF N T).nl = N ∧ (DF N T).tab = T ∧ (DF N T).ws = " " ∧ (DF N T).eb = N :=
  ⟨rfl, rfl, rfl, rfl⟩

theorem fills_min (o : Opts) (h : o.minify = true ∨ o.xminify = true) :
    fills o = MF (if o.xminify then "" else "\n") := by
  have : (o.minify || o.xminify) = true := by simpa using h
  simp [fills, this, MF]

theorem fills_default (o : Opts) (h1 : o.minify = false) (h2 : o.xminify = false) :
    fills o = DF "\n" (unitOf o) := by
  simp [fills, h1, h2, DF, unitOf]

theorem nl_nonempty : ("\n" : String).isEmpty = false := by decide

theorem fills_cases (o : Opts) : (∃ E, wsOnly E = true ∧ fills o = MF E) ∨ fills o = DF "\n" (unitOf o) := by
  by_cases h : o.minify = true ∨ o.xminify = true
  · exact .inl ⟨_, by split <;> decide, fills_min o h⟩
  · rw [not_or, Bool.not_eq_true, Bool.not_eq_true] at h
    exact .inr (fills_default o h.1 h.2)

/-- minified (C11_min for any end-of-block `E`): every optional item is empty, except that a block
    ends in `E` unless it is the last of an at-rule body -/
theorem roM (E : String) :
    realiseOpt (MF E) .nl = "" ∧ realiseOpt (MF E) .ws = "" ∧ realiseOpt (MF E) .commaWs = "" ∧
    (∀ n, realiseOpt (MF E) (.indent n) = "") ∧ (∀ n, realiseOpt (MF E) (.selSep n) = "") ∧
    realiseOpt (MF E) .ebLast = "" ∧ realiseOpt (MF E) .eb = E ∧ realiseOpt (MF E) .ebInner = E := by
  simp [realiseOpt, MF]

/-- non-minified (C11_default for any line break `N` and unit `T`) -/
theorem roD {N : String} (T : String) (hN : N.isEmpty = false) :
    realiseOpt (DF N T) .nl = N ∧ realiseOpt (DF N T) .ws = " " ∧ realiseOpt (DF N T) .commaWs = " " ∧
    (∀ n, realiseOpt (DF N T) (.indent n) = rep n T) ∧ (∀ n, realiseOpt (DF N T) (.selSep n) = N ++ rep n T) ∧
    realiseOpt (DF N T) .eb = N ∧ realiseOpt (DF N T) .ebInner = N ∧ realiseOpt (DF N T) .ebLast = N := by
  simp [realiseOpt, DF, hN]

theorem roD_close {N : String} (T : String) (hN : N.isEmpty = false) (pos : Pos) :
    realiseOpt (DF N T) (closeOpt pos) = N := by
  cases pos <;> simp [closeOpt, roD T hN]

theorem wsOnly_realiseOpt_fills (o : Opts) (k : OptK) : wsOnly (realiseOpt (fills o) k) = true := by
  rcases fills_cases o with ⟨E, hE, e⟩ | e <;> rw [e]
  · cases k <;> simp [roM, hE, wsOnly_empty]
  · have hr (n : Nat) : wsOnly (rep n (unitOf o)) = true := all_rep n (all_unitOf o (by decide) (by decide))
    have h1 : wsOnly "\n" = true := by decide
    have h2 : wsOnly " " = true := by decide
    cases k <;> simp [roD _ nl_nonempty, wsOnly_append, hr, h1, h2]

/-! ### a rendering is the tokens interleaved with whitespace-only gaps -/

theorem Interleaves.prepend {ts : List String} {s g : String} (hg : wsOnly g = true)
    (h : Interleaves ts s) : Interleaves ts (g ++ s) := by
  cases h with
  | nil g' hg' => exact .nil _ (by rw [wsOnly_append, hg, hg']; rfl)
  | cons g' t ts s' hg' h' =>
    rw [← String.append_assoc, ← String.append_assoc]
    exact .cons _ _ _ _ (by rw [wsOnly_append, hg, hg']; rfl) h'

theorem interleaves_realise (f : Fills) (hf : ∀ k, wsOnly (realiseOpt f k) = true) (l : List Lay) :
    Interleaves (toks l) (realise f l) := by
  induction l with
  | nil => exact .nil _ wsOnly_empty
  | cons a l ih =>
    cases a with
    | tok s => exact String.empty_append (s := s) ▸ .cons _ _ _ _ wsOnly_empty ih
    | opt k => exact ih.prepend (hf k)

/-- C11_erase_gaps for any fills whose optional items are whitespace -/
theorem gaps_spec (f : Fills) (hf : ∀ k, wsOnly (realiseOpt f k) = true) (l : List Lay) :
    realise f l = weave (gaps f l) (toks l) ∧ (gaps f l).length = (toks l).length + 1 ∧
      ∀ g ∈ gaps f l, wsOnly g = true := by
  induction l with
  | nil => exact ⟨rfl, rfl, by simp [gaps, wsOnly_empty]⟩
  | cons a l ih =>
    obtain ⟨e, hlen, hws⟩ := ih
    cases a with
    | tok s => exact ⟨by simp [gaps, toks, weave, e], by simp [gaps, toks, hlen], by simpa [gaps, wsOnly_empty] using hws⟩
    | opt k =>
      -- the gap list is never empty: the new item joins its first entry
      obtain ⟨g, gs, hg⟩ := List.exists_cons_of_length_eq_add_one hlen
      rw [hg] at e hws
      rw [List.forall_mem_cons] at hws
      simp only [gaps, hg, toks, realise_opt, e, List.length_cons, List.forall_mem_cons, wsOnly_append, hf k, hws.1,
        Bool.and_self, true_and]
      refine ⟨?_, by simpa [hg] using hlen, hws.2⟩
      cases toks l <;> simp [weave, String.append_assoc]

theorem filter_wsOnly (s : String) (h : wsOnly s = true) : s.toList.filter notWs = [] := by
  simp only [wsOnly, List.all_eq_true] at h
  simp only [List.filter_eq_nil_iff, notWs]
  intro c hc
  simp [h c hc]

theorem filter_realise (f : Fills) (hf : ∀ k, wsOnly (realiseOpt f k) = true) (l : List Lay) :
    (realise f l).toList.filter notWs = (eraseWs l).toList.filter notWs := by
  induction l with
  | nil => rfl
  | cons a l ih =>
    simp only [eraseWs] at ih
    cases a with
    | tok s => simp [eraseWs, toks, String.toList_append, ih]
    | opt k => simp [eraseWs, toks, String.toList_append, ih, filter_wsOnly _ (hf k)]

/-! ### the leaf printers are realisations of their layouts (any fills) -/

theorem fmtSel_eq (f : Fills) (s : List SelPiece) : fmtSel f s = realise f (laySel s) := by
  induction s with
  | nil => rfl
  | cons p r ih => cases p <;> simp [fmtSel, laySel, ih, realiseOpt, String.append_assoc]

theorem fmtSel_congr {f g : Fills} (h : f.ws = g.ws) : fmtSel f = fmtSel g := by
  funext s
  induction s with
  | nil => rfl
  | cons p r ih => cases p <;> simp [fmtSel, ih, h]

theorem realise_laySels (f : Fills) (d : Nat) (sels : List (List SelPiece)) :
    realise f (laySels d sels) = joinWith ("," ++ realiseOpt f (.selSep d)) (sels.map (fmtSel f)) := by
  induction sels with
  | nil => rfl
  | cons s r ih =>
    cases r with
    | nil => simp [joinWith, laySels, fmtSel_eq]
    | cons s' r =>
      simp only [List.map_cons, joinWith] at ih ⊢
      simp only [laySels, realise_append, realise_tok, realise_opt, realise_nil, ih, ← fmtSel_eq,
        String.append_assoc, String.append_empty]

theorem fmtIdent_eq (f : Fills) (sels : List (List SelPiece)) :
    fmtIdent f sels = realise f (laySels 0 sels) := by
  simp [realise_laySels, fmtIdent, realiseOpt, rep_zero]

theorem fmtValue_eq (f : Fills) (v : List ValPiece) : fmtValue f v = realise f (layValue v) := by
  induction v with
  | nil => rfl
  | cons p r ih =>
    cases p with
    | tok s => simp [fmtValue, layValue, ih]
    | sp => simp [fmtValue, layValue, ih]
    | comma =>
      simp only [fmtValue, layValue, ih, realise_tok, realise_opt, realiseOpt]
      split <;> simp [String.append_assoc]

theorem fmtValue_congr {f g : Fills} (h1 : f.nl.isEmpty = g.nl.isEmpty) (h2 : f.ws = g.ws) (v : List ValPiece) :
    fmtValue f v = fmtValue g v := by
  induction v with
  | nil => rfl
  | cons p r ih => cases p <;> simp [fmtValue, ih, h1, h2]

theorem fmtDecls_eq (f : Fills) (d : Nat) (hI : realiseOpt f (.indent d) = f.tab) (ds : List Decl) :
    fmtDecls f ds = realise f (layDecls d ds) := by
  induction ds with
  | nil => rfl
  | cons x r ih =>
    have h1 : realiseOpt f .ws = f.ws := rfl
    have h2 : realiseOpt f .nl = f.nl := rfl
    unfold fmtDecls fmtDecl layDecls layDecl
    cases x.important <;>
      simp only [realise_append, realise_opt, realise_tok, realise_nil, hI, h1, h2, fmtValue_eq, ih,
        String.append_assoc, String.append_empty, if_true, if_false, Bool.false_eq_true]

/-- the declarations are printed without reference to the end-of-block fill -/
theorem fmtDecls_congr {f g : Fills} (h1 : f.nl = g.nl) (h2 : f.ws = g.ws) (h3 : f.tab = g.tab) (ds : List Decl) :
    fmtDecls f ds = fmtDecls g ds := by
  induction ds with
  | nil => rfl
  | cons x r ih => simp [fmtDecls, fmtDecl, ih, h1, h2, h3, fmtValue_congr (congrArg String.isEmpty h1) h2]

/-! ### a node's layout is its `layFront` and one closing item -/

theorem layNodes_nil (d : Nat) : layNodes d [] = [] := by simp [layNodes]

theorem layNodes_cons (d : Nat) (n : Node) (r : List Node) :
    layNodes d (n :: r) =
      layNode d (if d = 0 then .top else if r.isEmpty then .last else .inner) n ++ layNodes d r := by
  cases r <;> simp [layNodes]

def prints : Node → Bool
  | .rule _ decls => !decls.isEmpty
  | .nest _ inner => !inner.isEmpty
  | .stmt _ => true

/-- the layout of a printing node without its closing item -/
def layFront (d : Nat) : Node → List Lay
  | .rule sels decls =>
      [.opt (.indent d)] ++ laySels d sels ++ [.opt .ws, .tok "{", .opt .nl] ++ layDecls (d + 1) decls ++
        [.opt (.indent d), .tok "}"]
  | .nest p inner =>
      [.opt (.indent d), .tok p, .opt .ws, .tok "{", .opt .nl] ++ layNodes (d + 1) inner ++
        [.opt (.indent d), .tok "}"]
  | .stmt t => [.opt (.indent d), .tok t]

/-- the position of a node matters for its last item only -/
theorem layNode_eq (d : Nat) (pos : Pos) (n : Node) :
    layNode d pos n = if prints n then layFront d n ++ [.opt (closeOpt pos)] else [] := by
  cases n with
  | rule sels decls => cases h : decls.isEmpty <;> simp [layNode, prints, layFront, h]
  | nest p inner => cases h : inner.isEmpty <;> simp [layNode, prints, layFront, h]
  | stmt t => simp [layNode, prints, layFront]

theorem prints_of_innerOk {n : Node} (h : innerOk n = true) : prints n = true := by
  cases n with
  | stmt t => rfl
  | _ =>
    simp only [innerOk, Bool.and_eq_true, and_assoc] at h
    exact h.1

theorem fmtNode_rule (f : Fills) (sels : List (List SelPiece)) (decls : List Decl) :
    fmtNode f (.rule sels decls) =
      if decls.isEmpty then ""
      else fmtIdent f sels ++ f.ws ++ "{" ++ f.nl ++ fmtDecls f decls ++ "}" ++ f.eb := by simp [fmtNode]
theorem fmtNode_nest (f : Fills) (p : String) (inner : List Node) :
    fmtNode f (.nest p inner) =
      if inner.isEmpty then "" else
      p ++ f.ws ++ "{" ++ f.nl ++ f.tab ++
        (if f.nl.isEmpty then strip (String.ofList (rstripChars f.tab.toList (indent f (fmtNodes f inner)).toList))
         else String.ofList (rstripChars f.tab.toList (indent f (fmtNodes f inner)).toList)) ++ "}" ++ f.eb := by
  simp [fmtNode]
theorem fmtNode_stmt (f : Fills) (t : String) : fmtNode f (.stmt t) = t ++ f.eb := by simp [fmtNode]
theorem fmtNodes_nil (f : Fills) : fmtNodes f [] = "" := by simp [fmtNodes]
theorem fmtNodes_cons (f : Fills) (n : Node) (r : List Node) :
    fmtNodes f (n :: r) = fmtNode f n ++ fmtNodes f r := by simp [fmtNodes]

/-- induction on nodes and on lists of nodes at once, the shape of `fmtNode` / `fmtNodes` and of
    `layNode` / `layNodes` -/
theorem Node.induct₂ {P : Node → Prop} {Q : List Node → Prop}
    (rule : ∀ sels decls, P (.rule sels decls)) (nest : ∀ p inner, Q inner → P (.nest p inner))
    (stmt : ∀ t, P (.stmt t)) (nil : Q []) (cons : ∀ n r, P n → Q r → Q (n :: r)) :
    (∀ n, P n) ∧ ∀ ns, Q ns :=
  have hP : ∀ n, P n := fun n => Node.rec (motive_1 := P) (motive_2 := Q) rule nest stmt nil cons n
  ⟨hP, fun ns => List.rec nil (fun n r hr => cons n r (hP n) hr) ns⟩

/-! ### re-indentation (`Block._indent`) of a realised layout -/

/-- a character that `indentChars` copies without changing its state -/
def plain (c : Char) : Bool := c != '\n' && c != '"' && c != '\''
/-- an indentation unit without line break and quote -/
def TOk (T : String) : Bool := T.toList.all plain

theorem indentChars_nl (T r : List Char) :
    indentChars T none ('\n' :: r) = '\n' :: (T ++ indentChars T none r) := by
  simp [indentChars]

theorem indentChars_plainL (T l : List Char) (hl : l.all plain = true) (r : List Char) :
    indentChars T none (l ++ r) = l ++ indentChars T none r := by
  induction l with
  | nil => rfl
  | cons c l ih =>
    rw [List.all_cons, Bool.and_eq_true] at hl
    have hc := hl.1
    simp only [plain, Bool.and_eq_true, bne_iff_ne, ne_eq] at hc
    simp [indentChars, hc, ih hl.2]

theorem indentChars_noNl (T : List Char) (l : List Char) (q : Option Char)
    (h : l.contains '\n' = false) (r : List Char) :
    indentChars T q (l ++ r) = l ++ indentChars T (l.foldl qStep q) r := by
  induction l generalizing q with
  | nil => rfl
  | cons c l ih =>
    rw [List.contains_cons, Bool.or_eq_false_iff] at h
    have hc : (c == '\n') = false := by rw [← h.1]; exact Bool.beq_comm
    cases q with
    | some q' => simp only [List.cons_append, indentChars, List.foldl_cons, qStep, ih _ h.2]
    | none =>
      cases hq : (c == '"' || c == '\'') <;>
        simp only [List.cons_append, indentChars, List.foldl_cons, qStep, hq, hc, ih _ h.2, Bool.false_eq_true,
          if_false, if_true]

theorem indentChars_nil_tab (q : Option Char) (l : List Char) : indentChars [] q l = l := by
  induction l generalizing q with
  | nil => cases q <;> rfl
  | cons c r ih => cases q <;> simp only [indentChars, List.nil_append, ih, ite_self]

/-- every token text of the layout is `tokOk` -/
def layOk : List Lay → Bool
  | [] => true
  | .tok s :: r => tokOk s && layOk r
  | .opt _ :: r => layOk r

theorem layOk_append (a b : List Lay) : layOk (a ++ b) = (layOk a && layOk b) := by
  induction a with
  | nil => simp [layOk]
  | cons x a ih => cases x <;> simp [layOk, ih, Bool.and_assoc]

theorem str_nl_toList : ("\n" : String).toList = ['\n'] := by decide

theorem indentChars_realise (T : String) (hT : TOk T = true) (l : List Lay) (hl : layOk l = true) (r : List Char) :
    indentChars T.toList none ((realise (DF "\n" T) l).toList ++ r) =
      (realise (DF ("\n" ++ T) T) l).toList ++ indentChars T.toList none r := by
  induction l with
  | nil => rfl
  | cons a l ih =>
    cases a with
    | tok s =>
      simp only [layOk, tokOk, Bool.and_eq_true, Bool.not_eq_true', Option.isNone_iff_eq_none] at hl
      rw [realise_tok, realise_tok, String.toList_append, String.toList_append, List.append_assoc, List.append_assoc,
        indentChars_noNl _ _ _ hl.1.1, hl.1.2, ih hl.2]
    | opt k =>
      -- blanks and indentation are copied; a line break gets one unit after it
      have hsp : (" " : String).toList.all plain = true := by decide
      have hr (n : Nat) := indentChars_plainL T.toList _ (all_rep n hT)
      rw [realise_opt, realise_opt, String.toList_append, String.toList_append, List.append_assoc, List.append_assoc,
        ← ih hl]
      cases k <;>
        simp only [roD T nl_nonempty, roD T (str_append_isEmpty_false T nl_nonempty), String.toList_append,
          str_nl_toList, List.append_assoc, List.cons_append, List.nil_append, indentChars_nl,
          indentChars_plainL _ _ hsp, hr]

/-- re-indenting the text of a layout = realising the same layout with "line break := line break
    followed by one indentation unit" -/
theorem indent_realise {T : String} (hT : TOk T = true) {l : List Lay} (hl : layOk l = true) :
    indent (DF "\n" T) (realise (DF "\n" T) l) = realise (DF ("\n" ++ T) T) l := by
  unfold indent
  simp only [DF_fields, nl_nonempty]
  cases hT' : T.isEmpty with
  | true => rw [String.isEmpty_iff.1 hT', String.append_empty]; rfl
  | false =>
    have h := indentChars_realise T hT l hl []
    simp only [List.append_nil, indentChars] at h
    simp only [h, Bool.or_self, Bool.false_eq_true, if_false, String.ofList_toList]

/-! ### one more level: the same layout one level deeper, with the indentation unit moved through -/

theorem tab_rep (T : String) (d : Nat) (s : String) : T ++ (rep d T ++ s) = rep (d + 1) T ++ s := by
  rw [rep_succ, String.append_assoc]

section Shift
variable {N : String} (T : String) (hN : N.isEmpty = false)
include hN

theorem shift_sels (d : Nat) (sels : List (List SelPiece)) :
    realise (DF (N ++ T) T) (laySels d sels) = realise (DF N T) (laySels (d + 1) sels) := by
  rw [realise_laySels, realise_laySels, fmtSel_congr (f := DF (N ++ T) T) (g := DF N T) rfl]
  simp only [roD T hN, roD T (str_append_isEmpty_false T hN), rep_succ, String.append_assoc]

theorem shift_decls (d : Nat) (ds : List Decl) (s : String) :
    T ++ (realise (DF (N ++ T) T) (layDecls d ds) ++ s) =
      realise (DF N T) (layDecls (d + 1) ds) ++ (T ++ s) := by
  have hN' := str_append_isEmpty_false T hN
  induction ds generalizing s with
  | nil => simp [layDecls]
  | cons x r ih =>
    simp only [layDecls, layDecl, realise_append, String.append_assoc]
    cases x.important <;>
      simp only [realise_opt, realise_tok, realise_nil, roD T hN, roD T hN', ← fmtValue_eq,
        fmtValue_congr (f := DF (N ++ T) T) (g := DF N T) (hN'.trans hN.symm) rfl, String.append_assoc,
        String.append_empty, if_true, if_false, Bool.false_eq_true, tab_rep, ih]

theorem shift_level :
    (∀ (n : Node) (d : Nat) (pos pos' : Pos) (s : String),
      T ++ (realise (DF (N ++ T) T) (layNode d pos n) ++ s) =
        realise (DF N T) (layNode (d + 1) pos' n) ++ (T ++ s)) ∧
    ∀ (ns : List Node) (d : Nat) (s : String),
      T ++ (realise (DF (N ++ T) T) (layNodes d ns) ++ s) =
        realise (DF N T) (layNodes (d + 1) ns) ++ (T ++ s) := by
  have hN' := str_append_isEmpty_false T hN
  refine Node.induct₂ (fun sels decls d pos pos' s => ?_) (fun p inner ih d pos pos' s => ?_)
    (fun t d pos pos' s => ?_) (fun d s => ?_) (fun n r ihn ihr d s => ?_)
  · rw [layNode_eq, layNode_eq]
    split
    · simp only [layFront, realise_append, realise_opt, realise_tok, realise_nil, roD T hN, roD T hN', roD_close T hN,
        roD_close T hN', shift_sels T hN, String.append_assoc, String.append_empty, tab_rep, shift_decls T hN]
    · simp
  · rw [layNode_eq, layNode_eq]
    split
    · simp only [layFront, realise_append, realise_opt, realise_tok, realise_nil, roD T hN, roD T hN', roD_close T hN,
        roD_close T hN', String.append_assoc, String.append_empty, tab_rep, ih (d + 1)]
    · simp
  · simp only [layNode_eq, prints, layFront, if_true, realise_append, realise_opt, realise_tok, realise_nil, roD T hN,
      roD T hN', roD_close T hN, roD_close T hN', String.append_assoc, String.append_empty, tab_rep]
  · simp [layNodes_nil]
  · rw [layNodes_cons, layNodes_cons, realise_append, realise_append, String.append_assoc, String.append_assoc,
      ihn d _ _ _, ihr d s]

theorem shift_node : ∀ (n : Node) (d : Nat) (pos pos' : Pos) (s : String),
    T ++ (realise (DF (N ++ T) T) (layNode d pos n) ++ s) =
      realise (DF N T) (layNode (d + 1) pos' n) ++ (T ++ s) :=
  (shift_level T hN).1

end Shift

/-! ### the token texts in the layout of a clean node are `tokOk` -/

theorem innerOk_topOk (n : Node) (h : innerOk n = true) : topOk n = true := by
  cases n with
  | nest p inner => simp only [innerOk, Bool.and_eq_true] at h; exact h.2
  | _ => rfl

theorem innerOkL_cons (n : Node) (r : List Node) : innerOkL (n :: r) = (innerOk n && innerOkL r) := by
  simp [innerOkL]

theorem tokOk_lits : tokOk "," = true ∧ tokOk "{" = true ∧ tokOk "}" = true ∧ tokOk ":" = true ∧
    tokOk ";" = true ∧ tokOk " " = true ∧ tokOk " !important" = true := by decide +kernel

theorem layOk_laySel (s : List SelPiece) (h : s.all selPieceOk = true) : layOk (laySel s) = true := by
  induction s with
  | nil => rfl
  | cons p r ih =>
    simp only [List.all_cons, Bool.and_eq_true] at h
    cases p <;> simpa [laySel, layOk, ih h.2, selPieceOk] using h.1

theorem layOk_laySels (d : Nat) (sels : List (List SelPiece))
    (h : sels.all (fun s => s.all selPieceOk) = true) : layOk (laySels d sels) = true := by
  induction sels with
  | nil => rfl
  | cons s r ih =>
    simp only [List.all_cons, Bool.and_eq_true] at h
    cases r with
    | nil => simpa [laySels] using layOk_laySel s h.1
    | cons s' r => simp [laySels, layOk_append, layOk, layOk_laySel s h.1, ih h.2, tokOk_lits]

theorem layOk_layValue (v : List ValPiece) (h : v.all valPieceOk = true) : layOk (layValue v) = true := by
  induction v with
  | nil => rfl
  | cons p r ih =>
    simp only [List.all_cons, Bool.and_eq_true] at h
    cases p with
    | tok t => simpa [layValue, layOk, ih h.2, valPieceOk] using h.1
    | _ => simp [layValue, layOk, ih h.2, tokOk_lits]

theorem layOk_layDecls (d : Nat) (ds : List Decl) (h : ds.all declOk = true) :
    layOk (layDecls d ds) = true := by
  induction ds with
  | nil => rfl
  | cons x r ih =>
    simp only [List.all_cons, declOk, Bool.and_eq_true] at h
    simp [layDecls, layDecl, layOk_append, apply_ite layOk, layOk, h.1.1, layOk_layValue _ h.1.2, ih h.2, tokOk_lits]

theorem layOk_lay :
    (∀ n, innerOk n = true → ∀ d pos, layOk (layNode d pos n) = true) ∧
    ∀ ns, innerOkL ns = true → ∀ d, layOk (layNodes d ns) = true := by
  refine Node.induct₂ (fun sels decls h d pos => ?_) (fun p inner ih h d pos => ?_) (fun t h d pos => ?_)
    (fun _ d => ?_) (fun n r ihn ihr h d => ?_)
  · simp only [innerOk, Bool.and_eq_true, and_assoc] at h
    obtain ⟨-, hsels, hdecls, -⟩ := h
    rw [layNode_eq]
    split
    · simp [layFront, layOk_append, layOk, layOk_laySels d sels hsels, layOk_layDecls (d + 1) decls hdecls,
        tokOk_lits]
    · rfl
  · simp only [innerOk, Bool.and_eq_true, and_assoc] at h
    obtain ⟨-, hp, -, hinner⟩ := h
    rw [layNode_eq]
    split
    · simp [layFront, layOk_append, layOk, hp, ih hinner (d + 1), tokOk_lits]
    · rfl
  · simp only [innerOk, Bool.and_eq_true, and_assoc] at h
    simp [layNode_eq, prints, layFront, layOk, h.1]
  · simp [layNodes_nil, layOk]
  · rw [innerOkL_cons, Bool.and_eq_true] at h
    rw [layNodes_cons, layOk_append, ihn h.1, ihr h.2]
    rfl

theorem layOk_layNode : ∀ (n : Node) (d : Nat) (pos : Pos), innerOk n = true → layOk (layNode d pos n) = true :=
  fun n d pos h => layOk_lay.1 n h d pos

theorem layNodes_last (ns : List Node) (d : Nat) (h : innerOkL ns = true) (hne : ns ≠ []) :
    ∃ fr pos, layNodes d ns = fr ++ [.opt (closeOpt pos)] := by
  induction ns with
  | nil => exact absurd rfl hne
  | cons n r ih =>
    rw [innerOkL_cons, Bool.and_eq_true] at h
    rw [layNodes_cons, layNode_eq, prints_of_innerOk h.1, if_pos rfl]
    cases r with
    | nil => exact ⟨layFront d n, _, by rw [layNodes_nil, List.append_nil]⟩
    | cons n' r =>
      obtain ⟨fr, pos, hf⟩ := ih h.2 (List.cons_ne_nil _ _)
      exact ⟨_, pos, by rw [hf, ← List.append_assoc]⟩

theorem dropWhile_all {α : Type} {p : α → Bool} (l : List α) (hl : ∀ c ∈ l, p c = true) :
    l.dropWhile p = [] :=
  List.dropWhile_all hl

theorem rstrip_tab {T X : String} (hT : TOk T = true) :
    String.ofList (rstripChars T.toList (X ++ ("\n" ++ T)).toList) = X ++ "\n" := by
  have hnl : T.toList.contains '\n' = false := by
    rw [Bool.eq_false_iff, ne_eq, List.contains_iff_mem]
    exact fun hc => by simpa [plain] using List.all_eq_true.1 hT _ hc
  apply String.toList_injective
  simp only [String.toList_ofList, rstripChars, String.toList_append, str_nl_toList, List.reverse_append,
    List.reverse_cons, List.append_assoc, List.singleton_append]
  rw [(List.span_stop (fun c hc => by simpa using hc) hnl).2]
  simp

theorem rstripChars_nil (s : List Char) : rstripChars [] s = s := by
  unfold rstripChars
  cases h : s.reverse <;> simp [← h, List.dropWhile]

theorem headOk_append (a b : List Char) (h : headOk a = true) : headOk (a ++ b) = true := by
  cases a with
  | nil => simp [headOk] at h
  | cons c a => simpa [headOk] using h

theorem headOk_rev_append (a b : List Char) (h : headOk b.reverse = true) :
    headOk (a ++ b).reverse = true := by
  rw [List.reverse_append]; exact headOk_append _ _ h

theorem dropWhile_ws {g l : List Char} (hg : g.all isWs = true) (hl : headOk l = true) :
    (g ++ l).dropWhile isWs = l := by
  cases l with
  | nil => exact absurd hl (by decide)
  | cons a l => exact (List.span_stop (List.all_eq_true.1 hg) (by simpa [headOk] using hl)).2

theorem strip_between {g Y e : String} (hg : wsOnly g = true) (he : wsOnly e = true)
    (hh : headOk Y.toList = true) (hl : headOk Y.toList.reverse = true) : strip (g ++ (Y ++ e)) = Y := by
  unfold strip
  rw [String.toList_append, String.toList_append, dropWhile_ws hg (headOk_append _ _ hh), List.reverse_append,
    dropWhile_ws (by rwa [List.all_reverse]) hl, List.reverse_reverse, String.ofList_toList]

theorem sheet_of_node (f : Fills) (hn : ∀ n, topOk n = true → fmtNode f n = realise f (layNode 0 .top n))
    (sheet : List Node) (h : Clean sheet = true) : fmtNodes f sheet = realise f (layNodes 0 sheet) := by
  induction sheet with
  | nil => simp [fmtNodes_nil, layNodes_nil]
  | cons n r ih =>
    simp only [Clean, List.all_cons, Bool.and_eq_true] at h
    rw [fmtNodes_cons, layNodes_cons, if_pos rfl, realise_append, hn n h.1, ih h.2]

section MainD
variable (T : String) (hT : TOk T = true)

include hT in
/-- the body of an at-rule block: the inner blocks printed at level 0, re-indented, `rstrip`ped and
    prefixed with one unit, are the inner blocks laid out at level 1 -/
theorem nestBody_D (inner : List Node) (hne : inner ≠ []) (h : innerOkL inner = true) :
    T ++ String.ofList (rstripChars T.toList
          (indent (DF "\n" T) (realise (DF "\n" T) (layNodes 0 inner))).toList) =
      realise (DF "\n" T) (layNodes 1 inner) := by
  obtain ⟨fr, pos, hf⟩ := layNodes_last inner 0 h hne
  have hs := (shift_level T nl_nonempty).2 inner 0 ""
  rw [indent_realise hT (layOk_lay.2 inner h 0)]
  rw [hf, realise_append, realise_opt, realise_nil, roD_close T (str_append_isEmpty_false T nl_nonempty),
    String.append_empty] at hs ⊢
  rw [rstrip_tab hT]
  apply (String.append_left_inj T).1
  simpa only [String.append_assoc, String.append_empty] using hs

include hT in
/-- non-minified: the printer realises the layout, node by node (any position: every closing item
    is a line break) and list by list -/
theorem mainD :
    (∀ (n : Node) (pos : Pos), topOk n = true → fmtNode (DF "\n" T) n = realise (DF "\n" T) (layNode 0 pos n)) ∧
    ∀ (ns : List Node), innerOkL ns = true → fmtNodes (DF "\n" T) ns = realise (DF "\n" T) (layNodes 0 ns) := by
  refine Node.induct₂ (fun sels decls pos _ => ?_) (fun p inner ih pos h => ?_) (fun t pos _ => ?_)
    (fun _ => ?_) (fun n r ihn ihr h => ?_)
  · have hI : realiseOpt (DF "\n" T) (.indent 1) = (DF "\n" T).tab := by
      simp only [roD T nl_nonempty, rep_one, DF_fields]
    rw [fmtNode_rule, layNode_eq, prints]
    cases decls.isEmpty with
    | true => rfl
    | false =>
      simp only [Bool.not_false, if_true, Bool.false_eq_true, if_false, layFront, realise_append, realise_opt,
        realise_tok, realise_nil, roD T nl_nonempty, roD_close T nl_nonempty, rep_zero, ← fmtIdent_eq,
        ← fmtDecls_eq _ 1 hI, DF_fields, String.append_assoc, String.append_empty, String.empty_append]
  · rw [fmtNode_nest, layNode_eq, prints]
    cases hi : inner.isEmpty with
    | true => rfl
    | false =>
      rw [ih h]
      simp only [Bool.not_false, if_true, Bool.false_eq_true, if_false, layFront, realise_append, realise_opt,
        realise_tok, realise_nil, roD T nl_nonempty, roD_close T nl_nonempty, rep_zero, DF_fields, nl_nonempty,
        String.append_assoc, String.append_empty, String.empty_append,
        ← nestBody_D T hT inner (by simpa using hi) h]
  · rw [fmtNode_stmt]
    simp only [layNode_eq, prints, layFront, if_true, List.cons_append, List.nil_append, realise_opt, realise_tok,
      realise_nil, roD T nl_nonempty, roD_close T nl_nonempty, rep_zero, DF_fields, String.append_empty,
      String.empty_append]
  · simp [fmtNodes_nil, layNodes_nil]
  · rw [innerOkL_cons, Bool.and_eq_true] at h
    rw [fmtNodes_cons, layNodes_cons, if_pos rfl, realise_append, ihn .top (innerOk_topOk n h.1), ihr h.2]

include hT in
theorem mainD_nodes : ∀ (ns : List Node), innerOkL ns = true →
    fmtNodes (DF "\n" T) ns = realise (DF "\n" T) (layNodes 0 ns) :=
  (mainD T hT).2

end MainD

section MainM
variable (E : String) (hE : wsOnly E = true)

theorem realiseM_sels (d : Nat) (sels : List (List SelPiece)) :
    realise (MF E) (laySels d sels) = fmtIdent minFills sels := by
  rw [realise_laySels, fmtSel_congr (f := MF E) (g := minFills) rfl]
  simp only [roM]
  rfl

theorem realiseM_node (d : Nat) (pos : Pos) {n : Node} (h : prints n = true) :
    realise (MF E) (layNode d pos n) = realise (MF E) (layFront d n) ++ if pos = .last then "" else E := by
  rw [layNode_eq, h, if_pos rfl, realise_append, realise_opt, realise_nil, String.append_empty]
  cases pos <;> simp [closeOpt, roM]

theorem frontM_rule (d : Nat) (sels : List (List SelPiece)) (decls : List Decl) :
    realise (MF E) (layFront d (.rule sels decls)) = fmtIdent minFills sels ++ ("{" ++ (fmtDecls (MF E) decls ++ "}")) := by
  simp only [layFront, realise_append, realise_opt, realise_tok, realise_nil, roM, realiseM_sels,
    ← fmtDecls_eq (MF E) _ (by simp only [roM, MF_fields]), String.append_assoc, String.append_empty, String.empty_append]

theorem frontM_nest (d : Nat) (p : String) (inner : List Node) :
    realise (MF E) (layFront d (.nest p inner)) = p ++ ("{" ++ (realise (MF E) (layNodes (d + 1) inner) ++ "}")) := by
  simp only [layFront, realise_append, realise_opt, realise_tok, realise_nil, roM, String.append_assoc,
    String.append_empty, String.empty_append]

theorem frontM_stmt (d : Nat) (t : String) : realise (MF E) (layFront d (.stmt t)) = t := by
  simp only [layFront, realise_opt, realise_tok, realise_nil, roM, String.append_empty, String.empty_append]

theorem edgesM_front (d : Nat) {n : Node} (hn : innerOk n = true) :
    headOk (realise (MF E) (layFront d n)).toList = true ∧
      headOk (realise (MF E) (layFront d n)).toList.reverse = true := by
  have braces (a X : String) (h : headOk (a ++ "{").toList = true) :
      headOk (a ++ ("{" ++ (X ++ "}"))).toList = true ∧ headOk (a ++ ("{" ++ (X ++ "}"))).toList.reverse = true := by
    rw [← String.append_assoc, String.toList_append, String.toList_append (s := X)]
    exact ⟨headOk_append _ _ h, headOk_rev_append _ _ (headOk_rev_append _ _ (by decide))⟩
  cases n with
  | rule sels decls =>
    simp only [innerOk, Bool.and_eq_true, and_assoc] at hn
    obtain ⟨-, -, -, hhead⟩ := hn
    rw [frontM_rule]; exact braces _ _ hhead
  | nest p inner =>
    simp only [innerOk, Bool.and_eq_true, and_assoc] at hn
    obtain ⟨-, -, hhead, -⟩ := hn
    rw [frontM_nest]; exact braces _ _ hhead
  | stmt t =>
    simp only [innerOk, Bool.and_eq_true, and_assoc] at hn
    rw [frontM_stmt]; exact hn.2

theorem edgesM_nodes (ns : List Node) (d : Nat) (h : innerOkL ns = true) (hne : ns ≠ []) :
    headOk (realise (MF E) (layNodes (d + 1) ns)).toList = true ∧
      headOk (realise (MF E) (layNodes (d + 1) ns)).toList.reverse = true := by
  induction ns with
  | nil => exact absurd rfl hne
  | cons n r ih =>
    rw [innerOkL_cons, Bool.and_eq_true] at h
    have hn := edgesM_front E (d + 1) h.1
    rw [layNodes_cons, realise_append, String.toList_append, realiseM_node E _ _ (prints_of_innerOk h.1),
      String.toList_append]
    refine ⟨headOk_append _ _ (headOk_append _ _ hn.1), ?_⟩
    cases r with
    | nil => simpa [layNodes_nil] using hn.2
    | cons n' r => exact headOk_rev_append _ _ (ih h.2 (List.cons_ne_nil _ _)).2

theorem indent_M (s : String) : indent (MF E) s = s := by
  simp [indent, MF_fields]

theorem fmtNode_nest_M (p : String) (inner : List Node) :
    fmtNode (MF E) (.nest p inner) =
      if inner.isEmpty then "" else p ++ ("{" ++ (strip (fmtNodes (MF E) inner) ++ ("}" ++ E))) := by
  rw [fmtNode_nest, indent_M]
  simp only [MF_fields, String.isEmpty_iff, String.toList_empty, rstripChars_nil, String.ofList_toList, if_true,
    String.append_assoc, String.append_empty]

include hE in
/-- minified: the same at every depth `d`; for a list inside an at-rule block the layout lacks the `E`
    that `fmtNodes` prints after the last node too (its closing item is `.ebLast`, realised as ""):
    it is what `strip` removes from the body -/
theorem mainM :
    (∀ (n : Node) (d : Nat), topOk n = true → fmtNode (MF E) n = realise (MF E) (layNode d .top n)) ∧
    ∀ (ns : List Node) (d : Nat), innerOkL ns = true → ns ≠ [] →
      fmtNodes (MF E) ns = realise (MF E) (layNodes (d + 1) ns) ++ E := by
  refine Node.induct₂ (fun sels decls d _ => ?_) (fun p inner ih d h => ?_) (fun t d _ => ?_)
    (fun d _ hne => absurd rfl hne) (fun n r ihn ihr d h _ => ?_)
  · rw [fmtNode_rule, layNode_eq, prints]
    cases decls.isEmpty with
    | true => rfl
    | false =>
      simp only [Bool.not_false, if_true, Bool.false_eq_true, if_false, realise_append, frontM_rule, fmtIdent_eq,
        realiseM_sels, realise_opt, realise_nil, closeOpt, roM, MF_fields, String.append_assoc, String.append_empty]
  · rw [fmtNode_nest_M, layNode_eq, prints]
    cases hi : inner.isEmpty with
    | true => rfl
    | false =>
      have hne : inner ≠ [] := by simpa using hi
      have hs := strip_between wsOnly_empty hE (edgesM_nodes E inner d h hne).1 (edgesM_nodes E inner d h hne).2
      rw [String.empty_append] at hs
      rw [ih d h hne, hs]
      simp only [Bool.not_false, if_true, Bool.false_eq_true, if_false, realise_append, frontM_nest, realise_opt,
        realise_nil, closeOpt, roM, String.append_assoc, String.append_empty]
  · rw [fmtNode_stmt, realiseM_node E d _ rfl, frontM_stmt]; rfl
  · rw [innerOkL_cons, Bool.and_eq_true] at h
    have hp := prints_of_innerOk h.1
    rw [fmtNodes_cons, layNodes_cons, realise_append, ihn (d + 1) (innerOk_topOk n h.1), realiseM_node E _ _ hp,
      realiseM_node E _ _ hp]
    cases r with
    | nil => simp [fmtNodes_nil, layNodes_nil]
    | cons n' r => simp [ihr d h.2, String.append_assoc]

include hE in
theorem mainM_inner : ∀ (ns : List Node) (d : Nat), innerOkL ns = true → ns ≠ [] →
    fmtNodes (MF E) ns = realise (MF E) (layNodes (d + 1) ns) ++ E :=
  (mainM E hE).2

end MainM

/-! ### the erased text is itself a rendering -/

theorem weave_empty (ts : List String) : weave (List.replicate (ts.length + 1) "") ts = String.join ts := by
  induction ts with
  | nil => rfl
  | cons t ts ih =>
    rw [List.length_cons, List.replicate_succ, weave, ih, String.join_cons, String.empty_append]

theorem realiseOpt_MF_empty (k : OptK) : realiseOpt (MF "") k = "" := by
  cases k <;> simp only [roM]

theorem realise_MF_empty (l : List Lay) : realise (MF "") l = eraseWs l := by
  induction l with
  | nil => rfl
  | cons a l ih =>
    cases a with
    | tok s => simp only [realise_tok, eraseWs, toks, String.join_cons] at ih ⊢; rw [ih]
    | opt k => simp only [realise_opt, realiseOpt_MF_empty, String.empty_append, eraseWs, toks] at ih ⊢; exact ih

theorem filter_strip (s : String) : (strip s).toList.filter notWs = s.toList.filter notWs := by
  have drop : ∀ l : List Char, (l.dropWhile isWs).filter notWs = l.filter notWs := by
    intro l
    induction l with
    | nil => rfl
    | cons c l ih =>
      cases hc : isWs c with
      | true => simp [List.dropWhile, hc, ih, notWs]
      | false => simp [List.dropWhile, hc]
  unfold strip
  rw [String.toList_ofList, List.filter_reverse, drop, List.filter_reverse, List.reverse_reverse, drop]

theorem frontM_rule_erase (E : String) (d : Nat) (sels : List (List SelPiece)) (decls : List Decl) :
    realise (MF E) (layFront d (.rule sels decls)) = eraseWs (layFront d (.rule sels decls)) := by
  rw [← realise_MF_empty, frontM_rule, frontM_rule, fmtDecls_congr (f := MF E) (g := MF "") rfl rfl rfl]

def isOpt : Lay → Bool
  | .opt _ => true
  | .tok _ => false

/-- the optional items at both ends removed: what `strip` does to a rendering -/
def trimLay (l : List Lay) : List Lay := ((l.dropWhile isOpt).reverse.dropWhile isOpt).reverse

def headTokOk : List Lay → Bool
  | .tok a :: _ => headOk a.toList
  | _ => false

def lastTokOk (l : List Lay) : Bool :=
  match l.reverse with
  | .tok c :: _ => headOk c.toList.reverse
  | _ => false

theorem wsOnly_realise_opts (f : Fills) (hf : ∀ k, wsOnly (realiseOpt f k) = true) (m : List Lay)
    (hm : m.all isOpt = true) : wsOnly (realise f m) = true := by
  induction m with
  | nil => exact wsOnly_empty
  | cons a m ih =>
    rw [List.all_cons, Bool.and_eq_true] at hm
    cases a with
    | tok s => exact absurd hm.1 (by simp [isOpt])
    | opt k => rw [realise_opt, wsOnly_append, hf k, ih hm.2]; rfl

theorem headOk_realise (f : Fills) {l : List Lay} (h : headTokOk l = true) : headOk (realise f l).toList = true := by
  cases l with
  | nil => simp [headTokOk] at h
  | cons a l =>
    cases a with
    | tok s => rw [realise_tok, String.toList_append]; exact headOk_append _ _ h
    | opt k => simp [headTokOk] at h

theorem lastOk_realise (f : Fills) {l : List Lay} (h : lastTokOk l = true) :
    headOk (realise f l).toList.reverse = true := by
  unfold lastTokOk at h
  split at h
  · next c r hr =>
    rw [List.reverse_eq_cons_iff.1 hr, realise_append, String.toList_append]
    exact headOk_rev_append _ _ (by simpa using h)
  · exact absurd h (by decide)

/-- the final `strip` of `Formatter.format` removes the optional items at the two ends of the layout
    and nothing else, when the first token does not begin and the last does not end with whitespace -/
theorem strip_realise (f : Fills) (hf : ∀ k, wsOnly (realiseOpt f k) = true) (l : List Lay)
    (h1 : headTokOk (trimLay l) = true) (h2 : lastTokOk (trimLay l) = true) :
    strip (realise f l) = realise f (trimLay l) := by
  have e : realise f l = realise f (l.takeWhile isOpt) ++ (realise f (trimLay l) ++
      realise f ((l.dropWhile isOpt).reverse.takeWhile isOpt).reverse) := by
    rw [← realise_append, ← realise_append, trimLay, ← List.reverse_append, List.takeWhile_append_dropWhile,
      List.reverse_reverse, List.takeWhile_append_dropWhile]
  rw [e]
  exact strip_between (wsOnly_realise_opts f hf _ List.all_takeWhile)
    (wsOnly_realise_opts f hf _ (by rw [List.all_reverse]; exact List.all_takeWhile))
    (headOk_realise f h1) (lastOk_realise f h2)

end Lessm.Print
