/-
  Lemmas about the character-level front end: the backtracking matcher (`Lessm.Rx`), ply's token loop
  (`Lessm.Lex0.step`, `lexAll`) and the parser-facing stream (`front`, with the raw stream it meets: `rawUnderF`).  The
  theorems of C12 (character level) that later ones are proved from stand here under their own names, with the numbers
  under which C12 lists them in their docstrings: R1 `m_suffix`, `matchPrefix_suffix`; R2 `m_progress`,
  `matchPrefix_progress`; L1 `step_split`; L3 `lexAll_never_stuck`; L4 `action_lineno`, `step_lineno`.  R3, R4, L2, L5, the
  rest of R1 and L4, and all examples are in `Lessm/Props/C12Lex.lean`.

  The two loops are reasoned about through their graphs (`Lexes`, `Fronts`: one constructor per way a turn can end), so
  that a fact about the loop is one induction over the graph with nothing to unfold.
-/
import Lessm.Model.Lex0

namespace Lessm.Rx

/-- the prefix is non-empty once an iteration is demanded, because an iteration only counts if it consumed (the guard
    `s'.length < s.length` in `repLoop`) -/
theorem repLoop_split {α : Type} {step : List Char → (List Char → Option α) → Option α}
    (hstep : ∀ s k x, step s k = some x → ∃ p rest, s = p ++ rest ∧ k rest = some x)
    {greedy : Bool} {fuel min : Nat} {max : Option Nat} {s : List Char} {k : List Char → Option α} {x : α}
    (h : repLoop step greedy fuel min max s k = some x) :
    ∃ p rest, s = p ++ rest ∧ k rest = some x ∧ (0 < min → p ≠ []) := by
  induction fuel generalizing min max s x with
  | zero =>
    simp only [repLoop] at h
    split at h
    · exact ⟨[], s, rfl, h, by omega⟩
    · cases h
  | succ fuel ih =>
    simp only [repLoop] at h
    -- `m`: one more iteration (named, so that the case distinctions below work on a small term)
    generalize hm : step s _ = m at h
    have hmore : ∀ (b : Bool) y, (if b = true then m else none) = some y →
        ∃ p rest, s = p ++ rest ∧ k rest = some y ∧ (0 < min → p ≠ []) := by
      intro b y hy
      split at hy
      · rw [← hm] at hy
        obtain ⟨p, r, hs, hk⟩ := hstep _ _ _ hy
        split at hk
        · rename_i hlt
          obtain ⟨p', r', hs', hk', -⟩ := ih hk
          refine ⟨p ++ p', r', by rw [hs, hs', List.append_assoc], hk', fun _ hnil => ?_⟩
          rw [hs, (List.append_eq_nil_iff.mp hnil).1] at hlt
          exact Nat.lt_irrefl _ hlt
        · cases hk
      · cases hy
    split at h
    · exact hmore _ _ h
    · rename_i hmin
      split at h
      · split at h
        · rename_i r hr
          cases h
          exact hmore _ _ hr
        · exact ⟨[], s, rfl, h, fun h0 => absurd h0 hmin⟩
      · split at h
        · rename_i r hr
          cases h
          exact ⟨[], s, rfl, hr, fun h0 => absurd h0 hmin⟩
        · exact hmore _ _ h

theorem m_split {α : Type} (r : Re) {s : List Char} {k : List Char → Option α} {x : α}
    (h : r.m s k = some x) : ∃ p rest, s = p ++ rest ∧ k rest = some x ∧ (r.nullable = false → p ≠ []) := by
  induction r generalizing s k x with
  | eps => exact ⟨[], s, rfl, h, fun hn => by cases hn⟩
  | ch _ | notCh _ | any | cls _ _ =>
    cases s with
    | nil => cases h
    | cons a t =>
      simp only [Re.m] at h
      split at h
      · exact ⟨[a], t, rfl, h, fun _ => List.cons_ne_nil _ _⟩
      · cases h
  | seq a b iha ihb =>
    obtain ⟨p, _, rfl, hk, hp⟩ := iha h
    obtain ⟨p', r', rfl, hk', hp'⟩ := ihb hk
    refine ⟨p ++ p', r', (List.append_assoc ..).symm, hk', fun hn hnil => ?_⟩
    obtain ⟨e, e'⟩ := List.append_eq_nil_iff.mp hnil
    simp only [Re.nullable, Bool.and_eq_false_iff] at hn
    exact hn.elim (fun hn => hp hn e) (fun hn => hp' hn e')
  | alt a b iha ihb =>
    simp only [Re.nullable, Bool.or_eq_false_iff]
    simp only [Re.m] at h
    split at h
    · rename_i r hr
      cases h
      obtain ⟨p, r', hs, hk, hp⟩ := iha hr
      exact ⟨p, r', hs, hk, fun hn => hp hn.1⟩
    · obtain ⟨p, r', hs, hk, hp⟩ := ihb h
      exact ⟨p, r', hs, hk, fun hn => hp hn.2⟩
  | rep min max greedy r ih =>
    obtain ⟨p, r', hs, hk, hp⟩ := repLoop_split (fun _ _ _ h => let ⟨p, r', hs, hk, _⟩ := ih h; ⟨p, r', hs, hk⟩) h
    refine ⟨p, r', hs, hk, fun hn => hp ?_⟩
    simp only [Re.nullable, Bool.or_eq_false_iff, beq_eq_false_iff_ne] at hn
    omega

/-- **R1 `m_suffix`**: whenever `r.m s k` succeeds, the continuation succeeded on a suffix of the input: the matcher
    never invents, reorders or skips characters. -/
theorem m_suffix {α : Type} (r : Re) (s : List Char) (k : List Char → Option α) (x : α)
    (h : r.m s k = some x) : ∃ p rest, s = p ++ rest ∧ k rest = some x :=
  let ⟨p, rest, hs, hk, _⟩ := m_split r h
  ⟨p, rest, hs, hk⟩

/-- **R2 `m_progress`**: an expression that is not nullable consumes at least one character on every successful path. -/
theorem m_progress {α : Type} (r : Re) (s : List Char) (k : List Char → Option α) (x : α)
    (hn : r.nullable = false) (h : r.m s k = some x) :
    ∃ p rest, p ≠ [] ∧ s = p ++ rest ∧ k rest = some x :=
  let ⟨p, rest, hs, hk, hp⟩ := m_split r h
  ⟨p, rest, hp hn, hs, hk⟩

/-- **R1 corollary `matchPrefix_suffix`**: `re.match` returns a suffix of its input. -/
theorem matchPrefix_suffix (r : Re) (s rest : List Char) (h : r.matchPrefix s = some rest) : ∃ p, s = p ++ rest := by
  obtain ⟨p, r', hs, hk⟩ := m_suffix r s some rest h
  cases hk
  exact ⟨p, hs⟩

/-- **R2 corollary `matchPrefix_progress`**: a match of a non-nullable expression is non-empty. -/
theorem matchPrefix_progress (r : Re) (s rest : List Char) (hn : r.nullable = false)
    (h : r.matchPrefix s = some rest) : rest.length < s.length := by
  obtain ⟨p, r', hp, hs, hk⟩ := m_progress r s some rest hn h
  cases hk
  have : 0 < p.length := List.length_pos_iff.mpr hp
  rw [hs, List.length_append]
  omega

end Lessm.Rx

namespace Lessm.Lex0
open Lessm.Rx

theorem firstMatch_some {rs : List Rule} {s : List Char} {r : Rule} {rest : List Char}
    (h : firstMatch rs s = some (r, rest)) : r ∈ rs ∧ r.re.matchPrefix s = some rest := by
  induction rs with
  | nil => simp [firstMatch] at h
  | cons a rs ih =>
    simp only [firstMatch] at h
    split at h
    · rename_i rest' hm
      cases h
      exact ⟨by simp, hm⟩
    · have := ih h
      exact ⟨by simp [this.1], this.2⟩

theorem firstMatch_none {rs : List Rule} {s : List Char} (h : firstMatch rs s = none) :
    ∀ r ∈ rs, r.re.matchPrefix s = none := by
  induction rs with
  | nil => simp
  | cons a rs ih =>
    simp only [firstMatch] at h
    split at h
    · cases h
    · rename_i hm
      intro r hr
      rcases List.mem_cons.mp hr with rfl | hr
      · exact hm
      · exact ih h r hr

theorem mem_rulesOf {tb : Tables} {state : String} {r : Rule} (h : r ∈ rulesOf tb state) :
    ∃ p ∈ tb.rules, r ∈ p.2 := by
  have key : ∀ nm, r ∈ (match tb.rules.find? (·.1 == nm) with | some (_, rs) => rs | none => []) →
      ∃ p ∈ tb.rules, r ∈ p.2 := by
    intro nm hr
    split at hr
    · rename_i nm' rs hf
      exact ⟨_, List.mem_of_find?_eq_some hf, hr⟩
    · simp at hr
  unfold rulesOf at h
  dsimp only at h
  split at h
  · exact key _ h
  · rcases List.mem_append.mp h with h | h
    · exact key _ h
    · exact key _ h

/-- what a successful turn is made of: a rule match that consumed the lexeme `p`, or a literal character -/
theorem step_tok_cases {tb : Tables} {st st' : LState} {s rest : List Char} {t : Tok} {emit : Bool}
    (h : step tb st s = .tok t emit st' rest) :
    (∃ r p, firstMatch (rulesOf tb st.cur) s = some (r, rest) ∧ s = p ++ rest ∧ p ≠ [] ∧
        action tb st r p = (t.type, t.value, emit, st') ∧ t.line = st.lineno ∧ t.lexeme = String.ofList p) ∨
    (∃ c, firstMatch (rulesOf tb st.cur) s = none ∧ s = c :: rest ∧ tb.literals.contains c = true ∧
        t = ⟨String.singleton c, String.singleton c, st.lineno, String.singleton c⟩ ∧ emit = true ∧ st' = st) := by
  unfold step at h
  split at h
  · rename_i r rest0 hf
    split at h
    · rename_i hlt
      obtain ⟨p, rfl⟩ := matchPrefix_suffix _ _ _ (firstMatch_some hf).2
      rw [List.length_append, Nat.add_sub_cancel, List.take_left] at h
      injection h with h1 h2 h3 h4
      subst h1 h2 h3 h4
      refine .inl ⟨r, p, hf, rfl, ?_, rfl, rfl, rfl⟩
      rintro rfl
      exact Nat.lt_irrefl _ hlt
    · cases h
  · rename_i hf
    split at h
    · rename_i c rest0
      split at h
      · rename_i hc
        injection h with h1 h2 h3 h4
        subst h1 h2 h3 h4
        exact .inr ⟨c, hf, rfl, hc, rfl, rfl, rfl⟩
      · cases h
    · cases h

/-- **L1 `step_split`**: a turn of the token loop that hands out a token (rule match or literal character) splits the
    input into the token's lexeme — never empty — and the rest. -/
theorem step_split {tb : Tables} {st st' : LState} {s rest : List Char} {t : Tok} {emit : Bool}
    (h : step tb st s = .tok t emit st' rest) : s = t.lexeme.toList ++ rest ∧ t.lexeme.toList ≠ [] := by
  rcases step_tok_cases h with ⟨r, p, -, hs, hp, -, -, hlex⟩ | ⟨c, -, hs, -, rfl, -, -⟩
  · rw [hlex, String.toList_ofList]
    exact ⟨hs, hp⟩
  · rw [String.toList_singleton]
    exact ⟨hs, List.cons_ne_nil _ _⟩

theorem step_rest_lt {tb : Tables} {st st' : LState} {s rest : List Char} {t : Tok} {emit : Bool}
    (h : step tb st s = .tok t emit st' rest) : rest.length < s.length := by
  obtain ⟨hs, hne⟩ := step_split h
  have : 0 < t.lexeme.toList.length := List.length_pos_iff.mpr hne
  rw [hs, List.length_append]
  omega

theorem step_ne_stuck {tb : Tables} (hnn : ∀ p ∈ tb.rules, ∀ r ∈ p.2, r.re.nullable = false)
    {st : LState} {s : List Char} (hs : s ≠ []) : step tb st s ≠ .stuck := by
  unfold step
  split
  · rename_i r rest hf
    obtain ⟨hmem, hm⟩ := firstMatch_some hf
    obtain ⟨p, hp, hr⟩ := mem_rulesOf hmem
    have := matchPrefix_progress _ _ _ (hnn p hp r hr) hm
    simp [this]
  · split
    · split <;> simp
    · exact absurd rfl hs

/-- `t_error`: the turn stops at `c`, no rule of the current state (nor of INITIAL) matches there, `c` is no literal -/
theorem step_illegal {tb : Tables} {st : LState} {s : List Char} {c : Char} {l : Nat}
    (h : step tb st s = .illegal c l) :
    (∃ rest, s = c :: rest) ∧ firstMatch (rulesOf tb st.cur) s = none ∧ c ∉ tb.literals ∧ l = st.lineno := by
  unfold step at h
  split at h
  · split at h <;> cases h
  · rename_i hf
    split at h
    · split at h
      · cases h
      · rename_i hc
        injection h with h1 h2
        subst h1; subst h2
        exact ⟨⟨_, rfl⟩, hf, by simpa using hc, rfl⟩
    · cases h

@[simp] theorem Res.items_cons (t : Item) (r : Res) : (r.cons t).items = t :: r.items := by
  cases r <;> rfl

theorem Res.cons_eq_ok {t : Item} {r : Res} {items : List Item} (h : r.cons t = .ok items) :
    ∃ items', r = .ok items' ∧ items = t :: items' := by
  cases r <;> cases h
  exact ⟨_, rfl, rfl⟩

theorem Res.cons_eq_illegal {t : Item} {r : Res} {items : List Item} {c : Char} {l : Nat}
    (h : r.cons t = .illegal items c l) : ∃ items', r = .illegal items' c l ∧ items = t :: items' := by
  cases r <;> cases h
  exact ⟨_, rfl, rfl⟩

theorem Res.cons_eq_stuck {t : Item} {r : Res} {items : List Item}
    (h : r.cons t = .stuck items) : ∃ items', r = .stuck items' ∧ items = t :: items' := by
  cases r <;> cases h
  exact ⟨_, rfl, rfl⟩

/-- the graph of `lexAll`: one constructor per way a turn of ply's loop ends -/
inductive Lexes (tb : Tables) : LState → List Char → Res → Prop
  | nil (st : LState) : Lexes tb st [] (.ok [])
  | tok {st st' : LState} {s rest : List Char} {t : Tok} {emit : Bool} {r : Res} :
      step tb st s = .tok t emit st' rest → Lexes tb st' rest r → Lexes tb st s (r.cons (t, emit, st'))
  | illegal {st : LState} {s : List Char} {c : Char} {l : Nat} :
      step tb st s = .illegal c l → Lexes tb st s (.illegal [] c l)
  | stuck {st : LState} {s : List Char} : s ≠ [] → step tb st s = .stuck → Lexes tb st s (.stuck [])

theorem lexAll_nil (tb : Tables) (st : LState) : lexAll tb st [] = .ok [] := by
  rw [lexAll]

theorem lexAll_tok {tb : Tables} {st st' : LState} {s rest : List Char} {t : Tok} {emit : Bool}
    (h : step tb st s = .tok t emit st' rest) : lexAll tb st s = (lexAll tb st' rest).cons (t, emit, st') := by
  have hl := step_rest_lt h
  cases s with
  | nil => simp at hl
  | cons a s' =>
    rw [lexAll]
    simp only [h, hl, dite_true]

theorem lexAll_illegal {tb : Tables} {st : LState} {s : List Char} {c : Char} {l : Nat}
    (h : step tb st s = .illegal c l) : lexAll tb st s = .illegal [] c l := by
  obtain ⟨⟨rest, rfl⟩, -⟩ := step_illegal h
  rw [lexAll]
  simp only [h]

theorem lexAll_stuck {tb : Tables} {st : LState} {s : List Char} (hs : s ≠ [])
    (h : step tb st s = .stuck) : lexAll tb st s = .stuck [] := by
  cases s with
  | nil => exact absurd rfl hs
  | cons a s' =>
    rw [lexAll]
    simp only [h]

theorem lexAll_lexes (tb : Tables) (st : LState) (s : List Char) : Lexes tb st s (lexAll tb st s) := by
  induction st, s using lexAll.induct tb with
  | case1 st => rw [lexAll_nil]; exact .nil st
  | case2 st head tail t emit st' rest hstep hl ih => rw [lexAll_tok hstep]; exact .tok hstep ih
  | case3 st head tail t emit st' rest hstep hl => exact absurd (step_rest_lt hstep) hl
  | case4 st head tail c l hstep => rw [lexAll_illegal hstep]; exact .illegal hstep
  | case5 st head tail hstep => rw [lexAll_stuck (List.cons_ne_nil _ _) hstep]; exact .stuck (List.cons_ne_nil _ _) hstep

abbrev charsOf (items : List Item) : List Char := items.flatMap (fun it => it.1.lexeme.toList)

/-- the lexer state behind a raw stream that started in `st` -/
def endState : LState → List Item → LState
  | st, [] => st
  | _, it :: r => endState it.2.2 r

theorem endState_eq_getLast (st : LState) (items : List Item) :
    endState st items = (items.getLast?.map (·.2.2)).getD st := by
  induction items generalizing st with
  | nil => rfl
  | cons it r ih =>
    rw [endState, ih, List.getLast?_cons, Option.map_some, Option.getD_some, Option.getD_map]

/-- the input is the items' characters and what `lexAll` left: nothing, or the input of the turn that raised, taken in
    the state behind the items (`step_illegal` says what such a turn looks like) -/
theorem Lexes.partition {tb : Tables} {st : LState} {s : List Char} {r : Res} (h : Lexes tb st s r) :
    ∃ rest, s = charsOf r.items ++ rest ∧
      (∀ items, r = .ok items → rest = []) ∧
      (∀ items c l, r = .illegal items c l → step tb (endState st items) rest = .illegal c l) := by
  induction h with
  | nil st => exact ⟨[], rfl, fun _ _ => rfl, fun _ _ _ hi => nomatch hi⟩
  | tok hstep _ ih =>
    obtain ⟨rest, h1, h2, h3⟩ := ih
    refine ⟨rest, ?_, fun items hi => ?_, fun items c l hi => ?_⟩
    · rw [Res.items_cons, charsOf, List.flatMap_cons, List.append_assoc, ← h1]
      exact (step_split hstep).1
    · obtain ⟨items', hi', -⟩ := Res.cons_eq_ok hi
      exact h2 _ hi'
    · obtain ⟨items', hi', rfl⟩ := Res.cons_eq_illegal hi
      exact h3 _ _ _ hi'
  | @illegal st s c l hstep =>
    refine ⟨s, rfl, (fun _ hi => nomatch hi), fun items c' l' hi => ?_⟩
    cases hi
    exact hstep
  | @stuck st s _ _ => exact ⟨s, rfl, (fun _ hi => nomatch hi), fun _ _ _ hi => nomatch hi⟩

/-- **L3 `lexAll_never_stuck`**: if no rule is nullable the loop never gets stuck (every turn consumes input, hands
    out an illegal character, or the input is exhausted). -/
theorem lexAll_never_stuck {tb : Tables} (hnn : ∀ p ∈ tb.rules, ∀ r ∈ p.2, r.re.nullable = false)
    (st : LState) (s : List Char) (items : List Item) : lexAll tb st s ≠ .stuck items := by
  have h := lexAll_lexes tb st s
  generalize lexAll tb st s = r at h
  induction h generalizing items with
  | nil st => exact fun h => nomatch h
  | tok _ _ ih =>
    intro h
    obtain ⟨items', hi', -⟩ := Res.cons_eq_stuck h
    exact ih _ hi'
  | illegal _ => exact fun h => nomatch h
  | stuck hs hstep => exact absurd hstep (step_ne_stuck hnn hs)

@[simp] theorem push_lineno (st : LState) (s : String) : (push st s).lineno = st.lineno := rfl
@[simp] theorem pop_lineno (st : LState) : (pop st).lineno = st.lineno := by
  unfold pop; split <;> rfl

/-- every branch returns `st`, `push st _` or `st` with `inProp` set -/
theorem classifyIdent_lineno (tb : Tables) (st : LState) (v : String) :
    (classifyIdent tb st v).2.lineno = st.lineno := by
  unfold classifyIdent
  split
  · rfl
  · simp only [apply_ite Prod.snd, apply_ite LState.lineno, push_lineno, ite_self]

/-- the rule functions that add the newlines of their lexeme to the line counter -/
def countingFns : List String :=
  ["t_newline", "t_css_comment", "t_css_string", "t_istringquotes_css_string", "t_istringapostrophe_css_string"]

theorem mem_countingFns (f : String) : f ∈ countingFns ↔ f = "t_newline" ∨ f = "t_css_comment" ∨ f = "t_css_string" ∨
    f = "t_istringquotes_css_string" ∨ f = "t_istringapostrophe_css_string" := by
  simp only [countingFns, List.mem_cons, List.not_mem_nil, or_false]

/-- **L4 `action_lineno`**: a rule function advances the line counter by the newlines of the lexeme if it is one of
    t_newline, t_css_comment, t_css_string, t_istringquotes_css_string, t_istringapostrophe_css_string (`countingFns`),
    and leaves it alone otherwise (in particular `push`, `pop`, `classifyIdent` do not touch it). -/
theorem action_lineno (tb : Tables) (st : LState) (r : Rule) (lexeme : List Char) :
    (action tb st r lexeme).2.2.2.lineno = st.lineno + (if r.fn ∈ countingFns then countNl lexeme else 0) := by
  unfold action
  -- one goal per rule function named in `action` (`heq : r.fn = "…"`), and the default arm
  split
  case h_18 heq =>
    -- t_less_variable: a reserved word may push a state
    simp only [heq, mem_countingFns, String.reduceEq, or_self, if_false, Nat.add_zero]
    split <;> simp only [apply_ite LState.lineno, push_lineno, ite_self]
  case h_31 =>
    -- no named function: the hypotheses of the arm say `r.fn` is none of the five counting names
    rw [if_neg, Nat.add_zero]
    rw [mem_countingFns]
    rintro (h | h | h | h | h) <;> exact absurd h (by assumption)
  all_goals
    -- decide `r.fn ∈ countingFns` for the name at hand; the state is `st` under `push`, `pop`, `classifyIdent`,
    -- `inProp := _`, and `lineno := st.lineno + countNl lexeme` in exactly the five counting arms
    rename_i heq
    simp only [heq, mem_countingFns, String.reduceEq, or_false, false_or, or_self, if_false, if_true,
      Nat.add_zero, apply_ite LState.lineno, pop_lineno, push_lineno, ite_self, classifyIdent_lineno]

theorem countNl_append (a b : List Char) : countNl (a ++ b) = countNl a + countNl b := by
  simp [countNl, List.filter_append]

@[simp] theorem countNl_nil : countNl [] = 0 := rfl

/-- **L4 `step_lineno`**: token.lineno is the counter *before* the rule function runs; the counter after the turn is
    the counter before plus the newlines of the lexeme (rule with a counting function) or plus nothing (any other rule,
    literal characters); so always between `st.lineno` and `st.lineno + countNl lexeme`. -/
theorem step_lineno {tb : Tables} {st st' : LState} {s rest : List Char} {t : Tok} {emit : Bool}
    (h : step tb st s = .tok t emit st' rest) :
    t.line = st.lineno ∧
    st'.lineno = st.lineno + (match firstMatch (rulesOf tb st.cur) s with
      | some (r, _) => if r.fn ∈ countingFns then countNl t.lexeme.toList else 0
      | none => 0) ∧
    st.lineno ≤ st'.lineno ∧ st'.lineno ≤ st.lineno + countNl t.lexeme.toList := by
  rcases step_tok_cases h with ⟨r, p, hf, -, -, hact, hline, hlex⟩ | ⟨c, hf, -, -, rfl, -, rfl⟩
  · have hst := action_lineno tb st r p
    rw [hact] at hst
    rw [hf, hlex, String.toList_ofList, hst]
    refine ⟨hline, rfl, Nat.le_add_right _ _, Nat.add_le_add_left ?_ _⟩
    split
    · exact Nat.le_refl _
    · exact Nat.zero_le _
  · rw [hf]
    exact ⟨rfl, rfl, Nat.le_refl _, Nat.le_add_right _ _⟩

/-- line bookkeeping along a raw stream whose first turn starts with the counter at `n` -/
def LinesOK : Nat → List Item → Prop
  | _, [] => True
  | n, it :: rest =>
      it.1.line = n ∧ n ≤ it.2.2.lineno ∧ it.2.2.lineno ≤ n + countNl it.1.lexeme.toList ∧ LinesOK it.2.2.lineno rest

theorem Lexes.linesOK {tb : Tables} {st : LState} {s : List Char} {r : Res} (h : Lexes tb st s r) :
    LinesOK st.lineno r.items := by
  induction h with
  | tok hstep _ ih =>
    obtain ⟨h1, -, h2, h3⟩ := step_lineno hstep
    rw [Res.items_cons]
    exact ⟨h1, h2, h3, ih⟩
  | nil | illegal | stuck => trivial

theorem LinesOK.head {n : Nat} {items : List Item} (h : LinesOK n items) {it : Item} (hh : items.head? = some it) :
    it.1.line = n := by
  cases items with
  | nil => cases hh
  | cons a rest =>
    cases hh
    exact h.1

/-- The item at position `i`: the stream from `i` on is `LinesOK` from that item's own line (`next` and `mono` follow from
    this part); its line lies between `n` and `n` plus the newlines consumed before it (clause (4) of `lexAll_lines`);
    and it is the latter exactly, if every earlier item advanced the counter by the newlines of its lexeme
    (`lexAll_lines_exact`). -/
theorem LinesOK.at {n : Nat} {items : List Item} (h : LinesOK n items) {i : Nat} {a : Item}
    (ha : items[i]? = some a) :
    LinesOK a.1.line (items.drop i) ∧ n ≤ a.1.line ∧ a.1.line ≤ n + countNl (charsOf (items.take i)) ∧
    ((∀ j b, j < i → items[j]? = some b → b.2.2.lineno = b.1.line + countNl b.1.lexeme.toList) →
      a.1.line = n + countNl (charsOf (items.take i))) := by
  induction items generalizing n i with
  | nil => cases ha
  | cons x rest ih =>
    cases i with
    | zero =>
      cases ha
      exact ⟨h.1 ▸ h, Nat.le_of_eq h.1.symm, Nat.le_of_eq h.1, fun _ => h.1⟩
    | succ k =>
      obtain ⟨h1, h2, h3, h4⟩ := h
      obtain ⟨i0, i1, i2, i3⟩ := ih h4 ha
      rw [List.take_succ_cons, charsOf, List.flatMap_cons, countNl_append, ← Nat.add_assoc]
      refine ⟨i0, Nat.le_trans h2 i1, Nat.le_trans i2 (Nat.add_le_add_right h3 _), fun hex => ?_⟩
      rw [i3 fun j b hj hb => hex (j + 1) b (Nat.succ_lt_succ hj) hb, hex 0 x (Nat.succ_pos k) rfl, h1]

theorem LinesOK.next {n : Nat} {items : List Item} (h : LinesOK n items) {i : Nat} {a b : Item}
    (ha : items[i]? = some a) (hb : items[i + 1]? = some b) : b.1.line = a.2.2.lineno := by
  have h' := (h.at ha).1
  obtain ⟨hi, rfl⟩ := List.getElem?_eq_some_iff.mp ha
  rw [List.drop_eq_getElem_cons hi] at h'
  exact h'.2.2.2.head (by rw [List.head?_drop]; exact hb)

theorem LinesOK.mono {n : Nat} {items : List Item} (h : LinesOK n items) {i j : Nat} {a b : Item}
    (hij : i ≤ j) (ha : items[i]? = some a) (hb : items[j]? = some b) : a.1.line ≤ b.1.line := by
  obtain ⟨k, rfl⟩ := Nat.exists_eq_add_of_le hij
  rw [← List.getElem?_drop] at hb
  exact ((h.at ha).1.at hb).2.1

def FRes.toks : FRes → List Tok
  | .ok ts => ts
  | .illegal ts _ _ => ts
  | .stuck ts => ts

@[simp] theorem FRes.toks_prepend (ts : List Tok) (r : FRes) : (r.prepend ts).toks = ts ++ r.toks := by
  cases r <;> rfl

theorem FRes.prepend_eq_stuck {ts : List Tok} {r : FRes} {x : List Tok} (h : r.prepend ts = .stuck x) :
    ∃ y, r = .stuck y := by
  cases r <;> cases h
  exact ⟨_, rfl⟩

theorem FRes.prepend_eq_illegal {ts : List Tok} {r : FRes} {x : List Tok} {c : Char} {l : Nat}
    (h : r.prepend ts = .illegal x c l) : ∃ y, r = .illegal y c l ∧ x = ts ++ y := by
  cases r <;> cases h
  exact ⟨_, rfl, rfl⟩

theorem FRes.prepend_eq_ok {ts : List Tok} {r : FRes} {x : List Tok}
    (h : r.prepend ts = .ok x) : ∃ y, r = .ok y ∧ x = ts ++ y := by
  cases r <;> cases h
  exact ⟨_, rfl, rfl⟩

/-- the blank filter: a `t_ws` is dropped unless the last token handed out has a significant type -/
def wsDrop (sig : List String) (last : Option String) (t : Tok) : Bool :=
  t.type == "t_ws" && (match last with | none => true | some l => !sig.contains l)

/-- the `;` injection: a `}` that follows neither `{` nor `}` nor `;`, outside the escape states -/
def needSemi (last : Option String) (t : Tok) (st' : LState) : Bool :=
  t.type == "t_bclose" && (match last with
      | none => false
      | some l => l != "t_bopen" && l != "t_bclose" && l != "t_semicolon")
    && !(st'.cur == "escapequotes" || st'.cur == "escapeapostrophe")

def escFlag (st : LState) : Bool := st.cur == "escapequotes" || st.cur == "escapeapostrophe"

theorem wsDrop_eq_false {sig : List String} {last : Option String} {t : Tok} :
    wsDrop sig last t = false ↔ (t.type = "t_ws" → ∃ l, last = some l ∧ l ∈ sig) := by
  cases last <;> simp [wsDrop]

theorem needSemi_eq_true {last : Option String} {t : Tok} {st' : LState} :
    needSemi last t st' = true ↔ t.type = "t_bclose" ∧
      (∃ l, last = some l ∧ l ≠ "t_bopen" ∧ l ≠ "t_bclose" ∧ l ≠ "t_semicolon") ∧ escFlag st' = false := by
  cases last <;> simp [needSemi, escFlag, and_assoc]

/-- The emitted raw tokens that `front` meets, in order, lexed under `front`'s own state feedback: the same recursion as
    `front`, but every emitted token of `step` is recorded — also the blanks `front` drops; comments (not emitted) and
    the injected `;` are not in it — with the flag "the lexer state right after the token is an escape state". -/
def rawUnderF (tb : Tables) (sig : List String) (last : Option String) (st : LState) (s : List Char) :
    List (Tok × Bool) :=
  match hs : s with
  | [] => []
  | _ :: _ =>
    match step tb st s with
    | .tok t emit st' rest =>
        if hl : rest.length < s.length then
          if !emit then rawUnderF tb sig last st' rest
          else if wsDrop sig last t then (t, escFlag st') :: rawUnderF tb sig last st' rest
          else if needSemi last t st' then
            (t, escFlag st') :: rawUnderF tb sig (some "t_semicolon") { st' with inProp := false } rest
          else (t, escFlag st') :: rawUnderF tb sig (some t.type) st' rest
        else []
    | .illegal _ _ => []
    | .stuck => []
termination_by s.length
decreasing_by all_goals (subst hs; simpa using hl)

def rawUnder (tb : Tables) (sig : List String) (last : Option String) (st : LState) (s : List Char) : List Tok :=
  (rawUnderF tb sig last st s).map (·.1)

/-- the injected `;`: no characters of its own, the line of the `}` behind it -/
def semiTok (line : Nat) : Tok := ⟨"t_semicolon", ";", line, ""⟩

theorem front_nil (tb : Tables) (sig : List String) (last : Option String) (st : LState) :
    front tb sig last st [] = .ok [] := by
  rw [front]

theorem front_tok {tb : Tables} {sig : List String} {last : Option String} {st st' : LState} {s rest : List Char}
    {t : Tok} {emit : Bool} (h : step tb st s = .tok t emit st' rest) :
    front tb sig last st s =
      if !emit then front tb sig last st' rest
      else if wsDrop sig last t then front tb sig last st' rest
      else if needSemi last t st' then
        (front tb sig (some "t_semicolon") { st' with inProp := false } rest).prepend [semiTok t.line, t]
      else (front tb sig (some t.type) st' rest).prepend [t] := by
  have hl := step_rest_lt h
  cases s with
  | nil => simp at hl
  | cons a s' =>
    rw [front.eq_def]
    simp only [h, hl, dite_true]
    rfl

theorem front_illegal {tb : Tables} {sig : List String} {last : Option String} {st : LState} {s : List Char}
    {c : Char} {l : Nat} (h : step tb st s = .illegal c l) : front tb sig last st s = .illegal [] c l := by
  obtain ⟨⟨rest, rfl⟩, -⟩ := step_illegal h
  rw [front.eq_def]
  simp only [h]

theorem front_stuck {tb : Tables} {sig : List String} {last : Option String} {st : LState} {s : List Char}
    (hs : s ≠ []) (h : step tb st s = .stuck) : front tb sig last st s = .stuck [] := by
  cases s with
  | nil => exact absurd rfl hs
  | cons a s' =>
    rw [front.eq_def]
    simp only [h]

theorem rawUnderF_nil (tb : Tables) (sig : List String) (last : Option String) (st : LState) :
    rawUnderF tb sig last st [] = [] := by
  rw [rawUnderF]

theorem rawUnderF_tok {tb : Tables} {sig : List String} {last : Option String} {st st' : LState} {s rest : List Char}
    {t : Tok} {emit : Bool} (h : step tb st s = .tok t emit st' rest) :
    rawUnderF tb sig last st s =
      if !emit then rawUnderF tb sig last st' rest
      else if wsDrop sig last t then (t, escFlag st') :: rawUnderF tb sig last st' rest
      else if needSemi last t st' then
        (t, escFlag st') :: rawUnderF tb sig (some "t_semicolon") { st' with inProp := false } rest
      else (t, escFlag st') :: rawUnderF tb sig (some t.type) st' rest := by
  have hl := step_rest_lt h
  cases s with
  | nil => simp at hl
  | cons a s' =>
    rw [rawUnderF.eq_def]
    simp only [h, hl, dite_true]

theorem rawUnderF_illegal {tb : Tables} {sig : List String} {last : Option String} {st : LState} {s : List Char}
    {c : Char} {l : Nat} (h : step tb st s = .illegal c l) : rawUnderF tb sig last st s = [] := by
  cases s with
  | nil => rw [rawUnderF]
  | cons a s' =>
    rw [rawUnderF.eq_def]
    simp only [h]

theorem rawUnderF_stuck {tb : Tables} {sig : List String} {last : Option String} {st : LState} {s : List Char}
    (h : step tb st s = .stuck) : rawUnderF tb sig last st s = [] := by
  cases s with
  | nil => rw [rawUnderF]
  | cons a s' =>
    rw [rawUnderF.eq_def]
    simp only [h]

/-- The graph of `front` and of `rawUnderF` (they make the same turns): one constructor per way a turn ends.
    `comment`: not handed out; `drop`: a blank behind a type that is not significant; `semi`: a `}` that gets a `;`
    put in front (which stays `last`, and resets `inProp`); `emit`: every other token. -/
inductive Fronts (tb : Tables) (sig : List String) : Option String → LState → List Char → FRes → List (Tok × Bool) → Prop
  | nil (last : Option String) (st : LState) : Fronts tb sig last st [] (.ok []) []
  | comment {last : Option String} {st st' : LState} {s rest : List Char} {t : Tok} {r : FRes} {raw : List (Tok × Bool)} :
      step tb st s = .tok t false st' rest → Fronts tb sig last st' rest r raw → Fronts tb sig last st s r raw
  | drop {last : Option String} {st st' : LState} {s rest : List Char} {t : Tok} {r : FRes} {raw : List (Tok × Bool)} :
      step tb st s = .tok t true st' rest → wsDrop sig last t = true → Fronts tb sig last st' rest r raw →
      Fronts tb sig last st s r ((t, escFlag st') :: raw)
  | semi {last : Option String} {st st' : LState} {s rest : List Char} {t : Tok} {r : FRes} {raw : List (Tok × Bool)} :
      step tb st s = .tok t true st' rest → wsDrop sig last t = false → needSemi last t st' = true →
      Fronts tb sig (some "t_semicolon") { st' with inProp := false } rest r raw →
      Fronts tb sig last st s (r.prepend [semiTok t.line, t]) ((t, escFlag st') :: raw)
  | emit {last : Option String} {st st' : LState} {s rest : List Char} {t : Tok} {r : FRes} {raw : List (Tok × Bool)} :
      step tb st s = .tok t true st' rest → wsDrop sig last t = false → needSemi last t st' = false →
      Fronts tb sig (some t.type) st' rest r raw → Fronts tb sig last st s (r.prepend [t]) ((t, escFlag st') :: raw)
  | illegal {last : Option String} {st : LState} {s : List Char} {c : Char} {l : Nat} :
      step tb st s = .illegal c l → Fronts tb sig last st s (.illegal [] c l) []
  | stuck {last : Option String} {st : LState} {s : List Char} :
      s ≠ [] → step tb st s = .stuck → Fronts tb sig last st s (.stuck []) []

theorem front_fronts (tb : Tables) (sig : List String) (last : Option String) (st : LState) (s : List Char) :
    Fronts tb sig last st s (front tb sig last st s) (rawUnderF tb sig last st s) := by
  induction hn : s.length using Nat.strongRecOn generalizing last st s with | _ n ih =>
  subst hn
  cases s with
  | nil => rw [front_nil, rawUnderF_nil]; exact .nil last st
  | cons a s' =>
    cases hstep : step tb st (a :: s') with
    | tok t emit st' rest =>
      have ih := fun last' st'' => ih _ (step_rest_lt hstep) last' st'' rest rfl
      rw [front_tok hstep, rawUnderF_tok hstep]
      cases emit with
      | false => exact .comment hstep (ih _ _)
      | true =>
        cases hws : wsDrop sig last t with
        | true => exact .drop hstep hws (ih _ _)
        | false =>
          cases hsemi : needSemi last t st' with
          | true => exact .semi hstep hws hsemi (ih _ _)
          | false => exact .emit hstep hws hsemi (ih _ _)
    | illegal c l => rw [front_illegal hstep, rawUnderF_illegal hstep]; exact .illegal hstep
    | stuck =>
      rw [front_stuck (List.cons_ne_nil _ _) hstep, rawUnderF_stuck hstep]
      exact .stuck (List.cons_ne_nil _ _) hstep

def FromStep (tb : Tables) (t : Tok) : Prop :=
  ∃ st s emit st' rest, step tb st s = .tok t emit st' rest

theorem FromStep.lexeme_ne {tb : Tables} {t : Tok} (h : FromStep tb t) : t.lexeme ≠ "" := by
  obtain ⟨st, s, emit, st', rest, hs⟩ := h
  exact fun e => (step_split hs).2 (by rw [e]; rfl)

/-- The shape of every output of `front`, `last` being the type of the last token handed out before it:
    tokens of the loop, a blank only behind a significant type, a `;` (which stays `last`) put in front of a `}`
    that follows neither `{` nor `}` nor `;`. -/
inductive FrontOut (tb : Tables) (sig : List String) : Option String → List Tok → Prop
  | nil (last : Option String) : FrontOut tb sig last []
  | emit {last : Option String} {t : Tok} {out : List Tok} :
      FromStep tb t → (t.type = "t_ws" → ∃ l, last = some l ∧ l ∈ sig) →
      FrontOut tb sig (some t.type) out → FrontOut tb sig last (t :: out)
  | inject {last : Option String} {t : Tok} {out : List Tok} :
      FromStep tb t → t.type = "t_bclose" →
      (∃ l, last = some l ∧ l ≠ "t_bopen" ∧ l ≠ "t_bclose" ∧ l ≠ "t_semicolon") →
      FrontOut tb sig (some "t_semicolon") out → FrontOut tb sig last (semiTok t.line :: t :: out)

theorem Fronts.out {tb : Tables} {sig : List String} {last : Option String} {st : LState} {s : List Char} {r : FRes}
    {raw : List (Tok × Bool)} (h : Fronts tb sig last st s r raw) : FrontOut tb sig last r.toks := by
  induction h with
  | nil | illegal | stuck => exact .nil _
  | comment _ _ ih | drop _ _ _ ih => exact ih
  | semi hstep _ hsemi _ ih =>
    obtain ⟨hty, hl, -⟩ := needSemi_eq_true.mp hsemi
    rw [FRes.toks_prepend]
    exact .inject ⟨_, _, _, _, _, hstep⟩ hty hl ih
  | emit hstep hws _ _ ih =>
    rw [FRes.toks_prepend]
    exact .emit ⟨_, _, _, _, _, hstep⟩ (wsDrop_eq_false.mp hws) ih

theorem front_out (tb : Tables) (sig : List String) (last : Option String) (st : LState) (s : List Char) :
    FrontOut tb sig last (front tb sig last st s).toks :=
  (front_fronts tb sig last st s).out

/-- `lexeme = ""` singles out the injected `;`: tokens of the loop have characters (`FromStep.lexeme_ne`) -/
theorem FrontOut.semi {tb : Tables} {sig : List String} {last : Option String} {out : List Tok}
    (h : FrontOut tb sig last out) {i : Nat} {q : Tok} (hi : out[i]? = some q) (hq : q.lexeme = "") :
    ∃ p, out[i + 1]? = some p ∧ p.type = "t_bclose" ∧ FromStep tb p ∧ q = semiTok p.line := by
  induction h generalizing i with
  | nil last => cases hi
  | @emit last t out hfs hws _ ih =>
    cases i with
    | zero =>
      cases hi
      exact absurd hq hfs.lexeme_ne
    | succ k => exact ih hi
  | @inject last t out hfs hty hl _ ih =>
    match i with
    | 0 =>
      cases hi
      exact ⟨t, rfl, hty, hfs, rfl⟩
    | 1 =>
      cases hi
      exact absurd hq hfs.lexeme_ne
    | k + 2 => exact ih hi

theorem FrontOut.origin {tb : Tables} {sig : List String} {last : Option String} {out : List Tok}
    (h : FrontOut tb sig last out) {t : Tok} (ht : t ∈ out) : FromStep tb t ∨ ∃ n, t = semiTok n := by
  induction h with
  | nil last => simp at ht
  | @emit last t' out hfs hws _ ih =>
    rcases List.mem_cons.mp ht with rfl | ht
    · exact .inl hfs
    · exact ih ht
  | @inject last t' out hfs hty hl _ ih =>
    rcases List.mem_cons.mp ht with rfl | ht
    · exact .inr ⟨_, rfl⟩
    · rcases List.mem_cons.mp ht with rfl | ht
      · exact .inl hfs
      · exact ih ht

/-- position `i` of `out` is directly behind a token of significant type — or behind a `}` that had a `;` injected
    (the `;` stays "the last token"), if `t_semicolon` is significant -/
def BehindSig (sig : List String) (out : List Tok) (i : Nat) : Prop :=
  ∃ j p, i = j + 1 ∧ out[j]? = some p ∧
    (p.type ∈ sig ∨ (p.type = "t_bclose" ∧ "t_semicolon" ∈ sig ∧
      ∃ j' n, j = j' + 1 ∧ out[j']? = some (semiTok n)))

theorem BehindSig.cons {sig : List String} {out : List Tok} {i : Nat} (h : BehindSig sig out i) (x : Tok) :
    BehindSig sig (x :: out) (i + 1) := by
  obtain ⟨j, p, rfl, hj, hp⟩ := h
  exact ⟨j + 1, p, rfl, hj, hp.imp_right fun ⟨h1, h2, j', n, hjj, hj'⟩ => ⟨h1, h2, j' + 1, n, by rw [hjj], hj'⟩⟩

theorem FrontOut.ws {tb : Tables} {sig : List String} {last : Option String} {out : List Tok}
    (h : FrontOut tb sig last out) {i : Nat} {w : Tok} (hi : out[i]? = some w) (hw : w.type = "t_ws") :
    (i = 0 ∧ ∃ l, last = some l ∧ l ∈ sig) ∨ BehindSig sig out i := by
  induction h generalizing i with
  | nil last => cases hi
  | @emit last t out hfs hws _ ih =>
    cases i with
    | zero =>
      cases hi
      exact .inl ⟨rfl, hws hw⟩
    | succ k =>
      rcases ih hi with ⟨rfl, l, hl, hsig⟩ | hb
      · cases hl
        exact .inr ⟨0, t, rfl, rfl, .inl hsig⟩
      · exact .inr (hb.cons t)
  | @inject last t out hfs hty hl _ ih =>
    match i with
    | 0 =>
      cases hi
      simp [semiTok] at hw
    | 1 =>
      cases hi
      rw [hty] at hw
      simp at hw
    | k + 2 =>
      rcases ih hi with ⟨rfl, l, hl, hsig⟩ | hb
      · cases hl
        exact .inr ⟨1, t, rfl, rfl, .inr ⟨hty, hsig, 0, t.line, rfl, rfl⟩⟩
      · exact .inr ((hb.cons t).cons _)

/-- `front` consumed a prefix `pre` of the input, of which the characters of its tokens are a subsequence (dropped blanks
    and comments are missing, an injected `;` adds nothing); if it raised, it was the turn at what is left that raised -/
theorem Fronts.consumed {tb : Tables} {sig : List String} {last : Option String} {st : LState} {s : List Char} {r : FRes}
    {raw : List (Tok × Bool)} (h : Fronts tb sig last st s r raw) :
    ∃ pre rest, s = pre ++ rest ∧ (r.toks.flatMap (fun t => t.lexeme.toList)).Sublist pre ∧
      ∀ ts c l, r = .illegal ts c l → ∃ st1, step tb st1 rest = .illegal c l := by
  induction h with
  | nil | stuck => exact ⟨[], _, rfl, .slnil, fun _ _ _ hr => nomatch hr⟩
  | @illegal _ st _ _ _ hstep => exact ⟨[], _, rfl, .slnil, fun _ _ _ hr => by cases hr; exact ⟨st, hstep⟩⟩
  | @comment _ _ _ _ _ t _ _ hstep _ ih | @drop _ _ _ _ _ t _ _ hstep _ _ ih =>
    obtain ⟨pre, rest, h1, h2, h3⟩ := ih
    refine ⟨t.lexeme.toList ++ pre, rest, ?_, h2.trans (List.sublist_append_right _ _), h3⟩
    rw [List.append_assoc, ← h1]
    exact (step_split hstep).1
  | @semi _ _ _ _ _ t _ _ hstep _ _ _ ih | @emit _ _ _ _ _ t _ _ hstep _ _ _ ih =>
    obtain ⟨pre, rest, h1, h2, h3⟩ := ih
    refine ⟨t.lexeme.toList ++ pre, rest, ?_, ?_, fun ts c l hr => ?_⟩
    · rw [List.append_assoc, ← h1]
      exact (step_split hstep).1
    · rw [FRes.toks_prepend, List.flatMap_append]
      exact List.Sublist.append (by simp [semiTok]) h2
    · obtain ⟨y, hy, -⟩ := FRes.prepend_eq_illegal hr
      exact h3 _ _ _ hy

theorem front_never_stuck_of {tb : Tables} (hnn : ∀ p ∈ tb.rules, ∀ r ∈ p.2, r.re.nullable = false)
    (sig : List String) (last : Option String) (st : LState) (s : List Char) (x : List Tok) :
    front tb sig last st s ≠ .stuck x := by
  have h := front_fronts tb sig last st s
  generalize front tb sig last st s = r, rawUnderF tb sig last st s = raw at h
  induction h generalizing x with
  | nil | illegal => exact fun h => nomatch h
  | comment _ _ ih | drop _ _ _ ih => exact ih x
  | semi _ _ _ _ ih | emit _ _ _ _ ih =>
    intro h
    obtain ⟨y, hy⟩ := FRes.prepend_eq_stuck h
    exact ih y hy
  | stuck hs hstep => exact absurd hstep (step_ne_stuck hnn hs)

end Lessm.Lex0
