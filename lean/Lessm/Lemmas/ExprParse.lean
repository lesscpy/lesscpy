/-
  The LR-style parser with precedence-resolved conflicts reads the text of every canonical tree back
  to that tree.  Core Lean only.

  The stack invariant: after the text of `e` the stack holds the right spine of `e` — one pending item
  `l o ·` per binary node on the path to the rightmost leaf, innermost first (`S e`) — and the current
  tree is that leaf (`last e`); `fold` closes pending items over the current tree, so `fold (S e)
  (last e) = e`.  `SpineGe k s`: every pending operator of `s` binds at least as tightly as level `k`
  (an incoming operator of level `k` reduces all of them); `Blocks k st`: the item on top of `st` binds
  less tightly than `k` (the reduction stops there).
-/
import Lessm.Model.Expr
namespace Lessm.Expr

section
variable {α : Type} (lvl : Op → Nat)

def S : E α → List (Item α)
  | .bin o l r => S r ++ [.pend l o]
  | _ => []
def last : E α → E α
  | .bin _ _ r => last r
  | e => e
def fold : List (Item α) → E α → E α
  | .pend l o :: s, c => fold s (.bin o l c)
  | _, c => c
def SpineGe (k : Nat) : List (Item α) → Prop
  | [] => True
  | .pend _ o :: st => k ≤ lvl o ∧ SpineGe k st
  | .mark :: _ => False
  | .nmark :: _ => False
def Blocks (k : Nat) : List (Item α) → Prop
  | .pend _ o :: _ => lvl o < k
  | _ => True

theorem SpineGe.mono {k k' : Nat} (h : k ≤ k') : ∀ {s : List (Item α)}, SpineGe lvl k' s → SpineGe lvl k s := by
  intro s hs
  induction s with
  | nil => trivial
  | cons i s ih =>
    cases i with
    | pend _ _ => exact ⟨Nat.le_trans h hs.1, ih hs.2⟩
    | mark | nmark => exact hs.elim
theorem SpineGe.append {k} : ∀ {s t : List (Item α)}, SpineGe lvl k s → SpineGe lvl k t → SpineGe lvl k (s ++ t) := by
  intro s t hs ht
  induction s with
  | nil => exact ht
  | cons i s ih =>
    cases i with
    | pend _ _ => exact ⟨hs.1, ih hs.2⟩
    | mark | nmark => exact hs.elim
theorem Blocks.mono {k k'} (h : k ≤ k') : ∀ {s : List (Item α)}, Blocks lvl k s → Blocks lvl k' s := by
  intro s hs
  rcases s with _ | ⟨_ | _ | _, _⟩
  · trivial
  · exact Nat.lt_of_lt_of_le hs h
  · trivial
  · trivial
theorem fold_append {k} : ∀ {s t : List (Item α)} {c}, SpineGe lvl k s → fold (s ++ t) c = fold t (fold s c) := by
  intro s t c hs
  induction s generalizing c with
  | nil => rfl
  | cons i s ih =>
    cases i with
    | pend _ _ => exact ih hs.2
    | mark | nmark => exact hs.elim
theorem reduceWhile_spine {look k} (hk : lvl look ≤ k) :
    ∀ {s st : List (Item α)} {c}, SpineGe lvl k s → Blocks lvl (lvl look) st →
      reduceWhile lvl look (s ++ st) c = (st, fold s c) := by
  intro s st c hs hb
  induction s generalizing c with
  | nil =>
    rcases st with _ | ⟨_ | _ | _, st⟩
    · rfl
    · exact if_neg (by rw [reduces, decide_eq_true_eq]; exact Nat.not_le.mpr hb)
    · rfl
    · rfl
  | cons i s ih =>
    cases i with
    | pend l o =>
      have : reduces lvl o look = true := decide_eq_true (Nat.le_trans hk hs.1)
      exact (if_pos this).trans (ih hs.2)
    | mark | nmark => exact hs.elim
theorem reduceAll_spine {k} : ∀ {s st : List (Item α)} {c}, SpineGe lvl k s → reduceAll (s ++ st) c = reduceAll st (fold s c) := by
  intro s st c hs
  induction s generalizing c with
  | nil => rfl
  | cons i s ih =>
    cases i with
    | pend _ _ => exact ih hs.2
    | mark | nmark => exact hs.elim
theorem spineGe_S : ∀ e : E α, Canon lvl e →
    (∀ k, rootLvl lvl e = some k → SpineGe lvl k (S e)) ∧ (rootLvl lvl e = none → S e = []) := by
  intro e hc
  induction e with
  | leaf _ | paren _ _ | neg _ _ => exact ⟨nofun, fun _ => rfl⟩
  | bin o l r _ ihr =>
    obtain ⟨_, hr, _, hrr⟩ := hc
    refine ⟨fun k hk => ?_, nofun⟩
    obtain rfl : lvl o = k := Option.some.inj hk
    refine SpineGe.append lvl ?_ ⟨Nat.le_refl _, trivial⟩
    cases hroot : rootLvl lvl r with
    | none => rw [(ihr hr).2 hroot]; trivial
    | some k' => exact SpineGe.mono lvl (Nat.le_of_lt (hrr k' hroot)) ((ihr hr).1 k' hroot)
theorem spineGe_any (e : E α) (h : Canon lvl e) :
    ∃ k, SpineGe lvl k (S e) ∧ (∀ k', rootLvl lvl e = some k' → k = k') := by
  cases hroot : rootLvl lvl e with
  | none => exact ⟨0, by rw [(spineGe_S lvl e h).2 hroot]; trivial, fun _ h => by simp at h⟩
  | some k => exact ⟨k, (spineGe_S lvl e h).1 k hroot, fun k' h => by simpa using h⟩
theorem fold_S_last : ∀ e : E α, Canon lvl e → fold (S e) (last e) = e := by
  intro e hc
  induction e with
  | leaf _ | paren _ _ | neg _ _ => rfl
  | bin o l r _ ihr =>
    obtain ⟨_, hr, _, _⟩ := hc
    obtain ⟨k, hk, _⟩ := spineGe_any lvl r hr
    show fold (S r ++ [.pend l o]) (last r) = _
    rw [fold_append lvl hk, ihr hr]
    rfl
theorem run_append (s) (a b : List (Tok α)) :
    run lvl s (a ++ b) = (run lvl s a).bind (fun s' => run lvl s' b) := by
  induction a generalizing s with
  | nil => simp [run]
  | cons t ts ih =>
    simp only [List.cons_append, run]
    cases h : step lvl s t with
    | none => simp
    | some s' => simp [ih]
/-- the pending operators on the right spine of a canonical tree bind at least as tightly as any
    level its root is allowed under (a tree that is no binary node is allowed under every level) -/
theorem spineGe_le (e : E α) (h : Canon lvl e) (k : Nat) (hk : ∀ k', rootLvl lvl e = some k' → k ≤ k') :
    SpineGe lvl k (S e) := by
  cases hroot : rootLvl lvl e with
  | none => rw [(spineGe_S lvl e h).2 hroot]; trivial
  | some k' => exact SpineGe.mono lvl (hk k' hroot) ((spineGe_S lvl e h).1 k' hroot)
/-- at a closing parenthesis or at the end, the pushed spine of `e` folds back to `e` -/
theorem reduceAll_S (e : E α) (h : Canon lvl e) (st : List (Item α)) :
    reduceAll (S e ++ st) (last e) = reduceAll st e := by
  rw [reduceAll_spine lvl (spineGe_le lvl e h 0 (fun _ _ => Nat.zero_le _)), fold_S_last lvl e h]
/-- feeding the text of a canonical tree pushes exactly its right spine -/
theorem feed (e : E α) (hc : Canon lvl e) : ∀ st, (∀ k, rootLvl lvl e = some k → Blocks lvl k st) →
    run lvl (st, none) (toks e) = some (S e ++ st, some (last e)) := by
  induction e with
  | leaf n => exact fun _ _ => rfl
  | paren e ih | neg e ih =>
    intro st _
    simp only [toks, List.cons_append, run, step]
    rw [run_append, ih hc]
    · simp only [Option.bind_some, run, step, reduceAll_S lvl e hc]
      rfl
    · exact fun _ _ => trivial
  | bin o l r ihl ihr =>
    intro st hst
    obtain ⟨hl, hr, hll, hrr⟩ := hc
    have hb : Blocks lvl (lvl o) st := hst _ rfl
    -- the operator reduces the whole spine of `l` (it binds no tighter) and stops at `st`
    have hred : reduceWhile lvl o (S l ++ st) (last l) = (st, l) := by
      rw [reduceWhile_spine lvl (Nat.le_refl _) (spineGe_le lvl l hl _ hll) hb, fold_S_last lvl l hl]
    simp only [toks]
    rw [run_append, ihl hl st (fun k hk => Blocks.mono lvl (hll k hk) hb)]
    simp only [Option.bind_some, run, step, hred, ihr hr (.pend l o :: st) hrr, S, last, List.append_assoc,
      List.singleton_append]
/-- LR with precedence-resolved conflicts reads the text of every canonical tree back to that tree. -/
theorem parse_toks (e : E α) (h : Canon lvl e) : parse lvl (toks e) = some e := by
  have := feed lvl e h [] (fun _ _ => trivial)
  simp only [parse, this, reduceAll_S lvl e h]
  rfl
end

end Lessm.Expr
