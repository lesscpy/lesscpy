/-
  Helper definitions and lemmas for property C14 (`@import`), about `Lessm/Model/Import.lean`.

  The specification (`paste`, `missingOf`, `depthLe`, `allExist`, `pasteU`) is five recursions of one
  shape, each stated for an arbitrary `sub` (what an imported file contributes) and then iterated.
  The loader is a sixth: below level 9 it is `pasteWith` / `missingWith` over the loader of the next
  level (`load_succ`), at level 9 the specification of depth 0 on a file without import statement,
  and aborted on any other (`load_zero`).
  Written paths: the extension of a path is `extOf` of its last component (`extChars_eq`), so what
  `isLess` and `resolve` do with the extension is stated about `lastComp`; `resolve_join` is `resolve`
  on a path given by its components.
-/
import Lessm.Model.Import

namespace Lessm.Imp

/-- units → text, with `sub tgt us` for the units `us` of an imported file `tgt` -/
def pasteWith (files : Files) (sub : Path → List Unit' → List String) (cur : Path) :
    List Unit' → List String
  | [] => []
  | .other t :: r => t :: pasteWith files sub cur r
  | .imp ip raw :: r =>
      (if isLess ip then
        match findFile files (resolve cur ip) with
        | none => []
        | some us => sub (resolve cur ip) us
       else [raw]) ++ pasteWith files sub cur r

/-- the text of the units of the file `cur` with every LESS import replaced by the pasted text of the
    file it names (relative paths in that text now taken from that file), `d` levels deep; a non-LESS
    import stays as written; a missing file contributes nothing -/
def paste (files : Files) : Nat → Path → List Unit' → List String
  | 0 => pasteWith files (fun _ _ => [])
  | d + 1 => pasteWith files (paste files d)

def missingWith (files : Files) (sub : Path → List Unit' → List IErr) (cur : Path) :
    List Unit' → List IErr
  | [] => []
  | .other _ :: r => missingWith files sub cur r
  | .imp ip _ :: r =>
      (if isLess ip then
        match findFile files (resolve cur ip) with
        | none => [.missing (resolve cur ip)]
        | some us => sub (resolve cur ip) us
       else []) ++ missingWith files sub cur r

/-- the missing LESS imports in traversal order, `d` levels of imports followed -/
def missingOf (files : Files) : Nat → Path → List Unit' → List IErr
  | 0 => missingWith files (fun _ _ => [])
  | d + 1 => missingWith files (missingOf files d)

/-- no import statement of any kind -/
def noImp : List Unit' → Bool
  | [] => true
  | .other _ :: r => noImp r
  | .imp _ _ :: _ => false

def depthLeWith (files : Files) (sub : Path → List Unit' → Bool) (cur : Path) : List Unit' → Bool
  | [] => true
  | .other _ :: r => depthLeWith files sub cur r
  | .imp ip _ :: r =>
      (if isLess ip then
        match findFile files (resolve cur ip) with
        | none => true
        | some us => sub (resolve cur ip) us
       else true) && depthLeWith files sub cur r

/-- every chain of LESS imports that starts in these units and runs through existing files (the last
    import may name a missing file) has at most `d` imports, and a file reached by `d` imports has no
    import statement at all (the parser of level 9 aborts at any import statement) -/
def depthLe (files : Files) : Nat → Path → List Unit' → Bool
  | 0 => fun _ => noImp
  | d + 1 => depthLeWith files (depthLe files d)

def allExistWith (files : Files) (sub : Path → List Unit' → Bool) (cur : Path) : List Unit' → Bool
  | [] => true
  | .other _ :: r => allExistWith files sub cur r
  | .imp ip _ :: r =>
      (if isLess ip then
        match findFile files (resolve cur ip) with
        | none => false
        | some us => sub (resolve cur ip) us
       else true) && allExistWith files sub cur r

/-- every LESS import followed within `d` levels names an existing file -/
def allExist (files : Files) : Nat → Path → List Unit' → Bool
  | 0 => allExistWith files (fun _ _ => true)
  | d + 1 => allExistWith files (allExist files d)

theorem pasteWith_append (files : Files) (sub) (cur : Path) (a b : List Unit') :
    pasteWith files sub cur (a ++ b) = pasteWith files sub cur a ++ pasteWith files sub cur b := by
  induction a with
  | nil => rfl
  | cons u r ih => cases u <;> simp [pasteWith, ih]

theorem paste_append (files : Files) (d : Nat) (cur : Path) (a b : List Unit') :
    paste files d cur (a ++ b) = paste files d cur a ++ paste files d cur b := by
  cases d <;> exact pasteWith_append ..

theorem missingWith_append (files : Files) (sub) (cur : Path) (a b : List Unit') :
    missingWith files sub cur (a ++ b) =
      missingWith files sub cur a ++ missingWith files sub cur b := by
  induction a with
  | nil => rfl
  | cons u r ih => cases u <;> simp [missingWith, ih]

theorem missingOf_append (files : Files) (d : Nat) (cur : Path) (a b : List Unit') :
    missingOf files d cur (a ++ b) = missingOf files d cur a ++ missingOf files d cur b := by
  cases d <;> exact missingWith_append ..

theorem noImp_append (a b : List Unit') : noImp (a ++ b) = (noImp a && noImp b) := by
  induction a with
  | nil => rfl
  | cons u r ih => cases u <;> simp [noImp, ih]

theorem depthLeWith_append (files : Files) (sub) (cur : Path) (a b : List Unit') :
    depthLeWith files sub cur (a ++ b) =
      (depthLeWith files sub cur a && depthLeWith files sub cur b) := by
  induction a with
  | nil => rfl
  | cons u r ih => cases u <;> simp [depthLeWith, ih, Bool.and_assoc]

theorem depthLe_append (files : Files) (d : Nat) (cur : Path) (a b : List Unit') :
    depthLe files d cur (a ++ b) = (depthLe files d cur a && depthLe files d cur b) := by
  cases d
  · exact noImp_append ..
  · exact depthLeWith_append ..

theorem allExistWith_append (files : Files) (sub) (cur : Path) (a b : List Unit') :
    allExistWith files sub cur (a ++ b) =
      (allExistWith files sub cur a && allExistWith files sub cur b) := by
  induction a with
  | nil => rfl
  | cons u r ih => cases u <;> simp [allExistWith, ih, Bool.and_assoc]

theorem allExist_append (files : Files) (d : Nat) (cur : Path) (a b : List Unit') :
    allExist files d cur (a ++ b) = (allExist files d cur a && allExist files d cur b) := by
  cases d <;> exact allExistWith_append ..

theorem missingWith_nil_of_allExistWith (files : Files) {subE : Path → List Unit' → Bool}
    {subM : Path → List Unit' → List IErr}
    (hsub : ∀ p us, subE p us = true → subM p us = []) (cur : Path) (us : List Unit')
    (h : allExistWith files subE cur us = true) : missingWith files subM cur us = [] := by
  induction us with
  | nil => rfl
  | cons u r ih =>
    cases u with
    | other t => exact ih (by simpa [allExistWith] using h)
    | imp ip raw =>
      simp only [allExistWith, Bool.and_eq_true] at h
      have h2 := ih h.2
      cases hl : isLess ip with
      | false => simp [missingWith, hl, h2]
      | true =>
        cases hf : findFile files (resolve cur ip) with
        | none => simp [hl, hf] at h
        | some uf =>
          have := hsub _ uf (by simpa [hl, hf] using h.1)
          simp [missingWith, hl, hf, this, h2]

theorem missingOf_of_allExist (files : Files) (b : Nat) (cur : Path) (us : List Unit')
    (h : allExist files b cur us = true) : missingOf files b cur us = [] := by
  induction b generalizing cur us with
  | zero => exact missingWith_nil_of_allExistWith files (fun _ _ _ => rfl) cur us h
  | succ b ih => exact missingWith_nil_of_allExistWith files ih cur us h

theorem tooDeep_not_mem_missingWith (files : Files) {sub : Path → List Unit' → List IErr}
    (hsub : ∀ p us, IErr.tooDeep ∉ sub p us) (cur : Path) (us : List Unit') :
    IErr.tooDeep ∉ missingWith files sub cur us := by
  induction us with
  | nil => simp [missingWith]
  | cons u r ih =>
    cases u with
    | other t => simpa [missingWith] using ih
    | imp ip raw =>
      cases hl : isLess ip with
      | false => simpa [missingWith, hl] using ih
      | true =>
        cases hf : findFile files (resolve cur ip) with
        | none => simpa [missingWith, hl, hf] using ih
        | some uf => simpa [missingWith, hl, hf] using ⟨hsub _ uf, ih⟩

theorem tooDeep_not_mem_missingOf (files : Files) (b : Nat) (cur : Path) (us : List Unit') :
    IErr.tooDeep ∉ missingOf files b cur us := by
  induction b generalizing cur us with
  | zero => exact tooDeep_not_mem_missingWith files (fun _ _ => List.not_mem_nil) cur us
  | succ b ih => exact tooDeep_not_mem_missingWith files ih cur us

theorem depthLeWith_of_noImp (files : Files) (sub) (cur : Path) {us : List Unit'}
    (h : noImp us = true) : depthLeWith files sub cur us = true := by
  induction us with
  | nil => rfl
  | cons u r ih =>
    cases u with
    | imp ip raw => simp [noImp] at h
    | other t => exact ih (by simpa [noImp] using h)

/-- `sub` is consulted only for the imported files that exist, and `depthLeWith files subD` is `subD`
    on exactly those: text and register do not change when `sub` changes elsewhere, and the depth
    condition passes to every `subD'` that holds where `subD` does -/
theorem specWith_congr (files : Files) {subD subD' : Path → List Unit' → Bool}
    {subP subP' : Path → List Unit' → List String} {subM subM' : Path → List Unit' → List IErr}
    (hs : ∀ p us, subD p us = true →
      subP p us = subP' p us ∧ subM p us = subM' p us ∧ subD' p us = true)
    (cur : Path) (us : List Unit') (h : depthLeWith files subD cur us = true) :
    pasteWith files subP cur us = pasteWith files subP' cur us ∧
    missingWith files subM cur us = missingWith files subM' cur us ∧
    depthLeWith files subD' cur us = true := by
  induction us with
  | nil => exact ⟨rfl, rfl, rfl⟩
  | cons u r ih =>
    cases u with
    | other t =>
      simpa [pasteWith, missingWith, depthLeWith] using ih (by simpa [depthLeWith] using h)
    | imp ip raw =>
      simp only [depthLeWith, Bool.and_eq_true] at h
      obtain ⟨h1, h2, h3⟩ := ih h.2
      cases hl : isLess ip with
      | false => simp [pasteWith, missingWith, depthLeWith, hl, h1, h2, h3]
      | true =>
        cases hf : findFile files (resolve cur ip) with
        | none => simp [pasteWith, missingWith, depthLeWith, hl, hf, h1, h2, h3]
        | some uf =>
          obtain ⟨e1, e2, e3⟩ := hs _ uf (by simpa [hl, hf] using h.1)
          simp [pasteWith, missingWith, depthLeWith, hl, hf, h1, h2, h3, e1, e2, e3]

theorem splitSlashAux_slash (r cur : List Char) :
    splitSlashAux ('/' :: r) cur = String.ofList cur.reverse :: splitSlashAux r [] := by
  rw [splitSlashAux]

theorem splitSlashAux_ne (c : Char) (r cur : List Char) (h : c ≠ '/') :
    splitSlashAux (c :: r) cur = splitSlashAux r (c :: cur) := by
  rw [splitSlashAux]; exact fun e => h e

theorem splitSlashAux_prefix (a rest cur : List Char) (h : '/' ∉ a) :
    splitSlashAux (a ++ rest) cur = splitSlashAux rest (a.reverse ++ cur) := by
  induction a generalizing cur with
  | nil => rfl
  | cons c r ih =>
    rw [List.cons_append, splitSlashAux_ne c _ cur (fun e => h (e ▸ List.mem_cons_self ..)),
      ih _ (fun hm => h (List.mem_cons_of_mem _ hm))]
    simp

theorem splitSlashAux_noSlash (cs cur : List Char) (h : '/' ∉ cs) :
    splitSlashAux cs cur = [String.ofList (cur.reverse ++ cs)] := by
  simpa [splitSlashAux] using splitSlashAux_prefix cs [] cur h

theorem splitSlashAux_ne_nil (cs cur : List Char) : splitSlashAux cs cur ≠ [] := by
  induction cs generalizing cur with
  | nil => simp [splitSlashAux]
  | cons c r ih =>
    by_cases hc : c = '/'
    · subst hc; simp [splitSlashAux_slash]
    · rw [splitSlashAux_ne c r cur hc]; exact ih _

theorem getLastD_cons_of_ne_nil {α} (x d : α) {l : List α} (h : l ≠ []) :
    (x :: l).getLastD d = l.getLastD d := by
  cases l with
  | nil => exact absurd rfl h
  | cons y r => rfl

theorem splitSlashAux_getLast (a b cur : List Char) (h : '/' ∉ b) :
    (splitSlashAux (a ++ '/' :: b) cur).getLastD "" = String.ofList b := by
  induction a generalizing cur with
  | nil => simp [splitSlashAux_slash, splitSlashAux_noSlash b [] h]
  | cons c r ih =>
    by_cases hc : c = '/'
    · subst hc
      rw [List.cons_append, splitSlashAux_slash, getLastD_cons_of_ne_nil _ _ (splitSlashAux_ne_nil _ _)]
      exact ih []
    · rw [List.cons_append, splitSlashAux_ne c _ cur hc]; exact ih _

theorem splitSlashAux_append (cs e cur : List Char) (h : '/' ∉ e) :
    splitSlashAux (cs ++ e) cur =
      (splitSlashAux cs cur).dropLast ++ [(splitSlashAux cs cur).getLastD "" ++ String.ofList e] := by
  induction cs generalizing cur with
  | nil => simp [splitSlashAux_noSlash e cur h, splitSlashAux, String.ofList_append]
  | cons c r ih =>
    by_cases hc : c = '/'
    · subst hc
      rw [List.cons_append, splitSlashAux_slash, splitSlashAux_slash, ih,
        getLastD_cons_of_ne_nil _ _ (splitSlashAux_ne_nil _ _),
        List.dropLast_cons_of_ne_nil (splitSlashAux_ne_nil _ _), List.cons_append]
    · rw [List.cons_append, splitSlashAux_ne c _ cur hc, splitSlashAux_ne c _ cur hc, ih]

theorem slash_toList : ("/" : String).toList = ['/'] := by decide

/-- **C14_path_split**: splitting at '/' undoes joining with "/". -/
theorem C14_path_split (cs : List String) (hne : cs ≠ []) (h : ∀ c ∈ cs, '/' ∉ c.toList) :
    splitSlash (String.intercalate "/" cs) = cs := by
  unfold splitSlash
  rw [String.toList_intercalate, slash_toList]
  induction cs with
  | nil => exact absurd rfl hne
  | cons a r ih =>
    have ha := h a (List.mem_cons_self ..)
    cases r with
    | nil => simp [List.intercalate, splitSlashAux_noSlash _ [] ha]
    | cons b r' =>
      have ih' := ih (by simp) (fun c hc => h c (List.mem_cons_of_mem _ hc))
      rw [List.map_cons, List.map_cons, List.intercalate_cons_cons, List.append_assoc,
        splitSlashAux_prefix _ _ _ ha, List.singleton_append, splitSlashAux_slash, ← List.map_cons, ih']
      simp

/-- a proper path component: not empty, not `.`, not `..` -/
def Proper (c : String) : Prop := c ≠ "" ∧ c ≠ "." ∧ c ≠ ".."

instance (c : String) : Decidable (Proper c) := by unfold Proper; infer_instance

theorem normalizeAux_proper (c : String) (r acc : List String) (h : Proper c) :
    normalizeAux (c :: r) acc = normalizeAux r (c :: acc) := by
  simp [normalizeAux, h.1, h.2.1, h.2.2]

theorem normalizeAux_dot (r acc : List String) : normalizeAux ("." :: r) acc = normalizeAux r acc := by
  simp [normalizeAux]

theorem normalizeAux_empty (r acc : List String) : normalizeAux ("" :: r) acc = normalizeAux r acc := by
  simp [normalizeAux]

theorem normalizeAux_dotdot (r acc : List String) :
    normalizeAux (".." :: r) acc = normalizeAux r acc.tail := by
  simp [normalizeAux]

theorem normalizeAux_proper_append (xs ys acc : List String) (h : ∀ c ∈ xs, Proper c) :
    normalizeAux (xs ++ ys) acc = normalizeAux ys (xs.reverse ++ acc) := by
  induction xs generalizing acc with
  | nil => rfl
  | cons c r ih =>
    rw [List.cons_append, normalizeAux_proper c _ acc (h c (List.mem_cons_self ..)),
      ih _ (fun c hc => h c (List.mem_cons_of_mem _ hc))]
    simp

theorem normalize_proper (xs : List String) (h : ∀ c ∈ xs, Proper c) : normalize xs = xs := by
  have := normalizeAux_proper_append xs [] [] h
  simp only [List.append_nil] at this
  simp [normalize, this, normalizeAux]

theorem proper_cases (c : String) : c = "" ∨ c = "." ∨ c = ".." ∨ Proper c := by
  unfold Proper
  by_cases h1 : c = ""
  · exact .inl h1
  · by_cases h2 : c = "."
    · exact .inr (.inl h2)
    · by_cases h3 : c = ".."
      · exact .inr (.inr (.inl h3))
      · exact .inr (.inr (.inr ⟨h1, h2, h3⟩))

theorem normalizeAux_skip (xs ys acc : List String) (c : String) (hc : c = "" ∨ c = ".") :
    normalizeAux (xs ++ c :: ys) acc = normalizeAux (xs ++ ys) acc := by
  induction xs generalizing acc with
  | nil => rcases hc with rfl | rfl <;> simp [normalizeAux]
  | cons x r ih =>
    -- whatever `x` is, both sides consume it by the same equation
    rcases proper_cases x with rfl | rfl | rfl | hx <;>
      simp only [List.cons_append, normalizeAux_empty, normalizeAux_dot, normalizeAux_dotdot,
        normalizeAux_proper, *]

theorem normalizeAux_all_proper (xs acc : List String) (h : ∀ c ∈ acc, Proper c) :
    ∀ c ∈ normalizeAux xs acc, Proper c := by
  induction xs generalizing acc with
  | nil => simpa [normalizeAux] using h
  | cons x r ih =>
    rcases proper_cases x with rfl | rfl | rfl | hx
    · rw [normalizeAux_empty]; exact ih _ h
    · rw [normalizeAux_dot]; exact ih _ h
    · rw [normalizeAux_dotdot]; exact ih _ fun c hc => h c (List.mem_of_mem_tail hc)
    · rw [normalizeAux_proper _ _ _ hx]; exact ih _ (List.forall_mem_cons.2 ⟨hx, h⟩)

theorem normalize_all_proper (xs : List String) : ∀ c ∈ normalize xs, Proper c :=
  normalizeAux_all_proper xs [] (by simp)

theorem normalize_idem (xs : List String) : normalize (normalize xs) = normalize xs :=
  normalize_proper _ (normalize_all_proper xs)

def lastComp (p : String) : String := (splitSlash p).getLastD ""

/-- `splitext` of one component -/
def extOf (cs : List Char) : List Char :=
  if (cs.dropWhile (· == '.')).contains '.' then
    '.' :: ((cs.dropWhile (· == '.')).reverse.takeWhile (· != '.')).reverse
  else []

theorem extChars_eq (p : String) : extChars p = extOf (lastComp p).toList := rfl

theorem lastComp_noSlash (n : String) (h : '/' ∉ n.toList) : lastComp n = n := by
  simp [lastComp, splitSlash, splitSlashAux_noSlash _ [] h]

theorem lastComp_pre (pre n : String) (h : '/' ∉ n.toList) : lastComp (pre ++ "/" ++ n) = n := by
  unfold lastComp splitSlash
  simp only [String.toList_append, slash_toList, List.append_assoc, List.singleton_append]
  rw [splitSlashAux_getLast _ _ _ h, String.ofList_toList]

/-- text without '/' appended to a written path goes to its last component -/
theorem splitSlash_append (p e : String) (h : '/' ∉ e.toList) :
    splitSlash (p ++ e) = (splitSlash p).dropLast ++ [lastComp p ++ e] := by
  rw [splitSlash, String.toList_append, splitSlashAux_append _ _ _ h, String.ofList_toList]; rfl

theorem lastComp_append (p e : String) (h : '/' ∉ e.toList) : lastComp (p ++ e) = lastComp p ++ e := by
  rw [lastComp, splitSlash_append p e h, List.getLastD_concat]

theorem extOf_nodot (cs : List Char) (h : '.' ∉ cs) : extOf cs = [] := by
  unfold extOf
  have : '.' ∉ cs.dropWhile (· == '.') := fun hc => h ((List.dropWhile_sublist _).subset hc)
  simp [this]

theorem slash_not_mem_less : '/' ∉ (".less" : String).toList := by decide

theorem toList_append_less (p : String) :
    (p ++ ".less").toList = p.toList ++ ['.', 'l', 'e', 's', 's'] := by
  rw [String.toList_append]; rfl

theorem extOf_less (cs : List Char) (h : ∃ c ∈ cs, c ≠ '.') :
    extOf (cs ++ ['.', 'l', 'e', 's', 's']) = ['.', 'l', 'e', 's', 's'] := by
  have hne : cs.dropWhile (· == '.') ≠ [] := by
    obtain ⟨c, hc, hcd⟩ := h
    intro he
    have := List.any_dropWhile (p := (· == '.')) (l := cs)
    simp only [he, List.any_nil, Bool.false_eq, Bool.not_eq_false', List.all_eq_true, beq_iff_eq] at this
    exact hcd (this c hc)
  simp [extOf, List.dropWhile_append, hne, List.takeWhile]

theorem isLess_of_ext_nil {p : String} (h : extChars p = []) : isLess p = true := by
  simp [isLess, h]

theorem isLess_of_ext_less {p : String} (h : extChars p = ['.', 'l', 'e', 's', 's']) :
    isLess p = true := by
  simp only [isLess, h]; decide

theorem resolve_of_ext_nil (cur : Path) {p : String} (h : extChars p = []) :
    resolve cur p = normalize (cur.dropLast ++ splitSlash (p ++ ".less")) := by
  simp [resolve, h]

theorem resolve_of_ext_ne_nil (cur : Path) {p : String} (h : extChars p ≠ []) :
    resolve cur p = normalize (cur.dropLast ++ splitSlash p) := by
  simp [resolve, h]

theorem extChars_append_less (p : String) (hn : ∃ c ∈ (lastComp p).toList, c ≠ '.') :
    extChars (p ++ ".less") = ['.', 'l', 'e', 's', 's'] := by
  rw [extChars_eq, lastComp_append p _ slash_not_mem_less, toList_append_less, extOf_less _ hn]

theorem isLess_append_less (p : String) (hn : ∃ c ∈ (lastComp p).toList, c ≠ '.') :
    isLess (p ++ ".less") = true :=
  isLess_of_ext_less (extChars_append_less p hn)

/-- the extension is optional, for every written path -/
theorem ext_optional (cur : Path) (p : String) (hd : '.' ∉ (lastComp p).toList)
    (hne : lastComp p ≠ "") :
    resolve cur p = resolve cur (p ++ ".less") ∧ isLess p = true ∧ isLess (p ++ ".less") = true := by
  obtain ⟨c, hc⟩ := List.exists_mem_of_ne_nil _ (mt String.toList_eq_nil_iff.1 hne)
  have hn : ∃ c ∈ (lastComp p).toList, c ≠ '.' := ⟨c, hc, fun e => hd (e ▸ hc)⟩
  have e1 : extChars p = [] := by rw [extChars_eq, extOf_nodot _ hd]
  refine ⟨?_, isLess_of_ext_nil e1, isLess_append_less p hn⟩
  rw [resolve_of_ext_nil cur e1, resolve_of_ext_ne_nil cur (by simp [extChars_append_less p hn])]

theorem proper_less (g : String) : Proper (g ++ ".less") := by
  have key : ∀ s : String, s.toList.length < 5 → g ++ ".less" ≠ s := by
    intro s hs e
    have := congrArg (fun t => t.toList.length) e
    simp only [toList_append_less, List.length_append, List.length_cons, List.length_nil] at this
    omega
  exact ⟨key _ (by decide), key _ (by decide), key _ (by decide)⟩

/-- a written path given by its components names the directory of the importing file followed by
    those components, `.less` appended to the last one if it has no extension, normalised -/
theorem resolve_join (cur : Path) (sub : List String) (g : String)
    (hsub : ∀ c ∈ sub, '/' ∉ c.toList) (hg : '/' ∉ g.toList) :
    resolve cur (String.intercalate "/" (sub ++ [g])) =
      normalize (cur.dropLast ++ sub ++ [if extOf g.toList = [] then g ++ ".less" else g]) := by
  have hs : splitSlash (String.intercalate "/" (sub ++ [g])) = sub ++ [g] :=
    C14_path_split _ (by simp) (List.forall_mem_append.2 ⟨hsub, List.forall_mem_singleton.2 hg⟩)
  have hl : lastComp (String.intercalate "/" (sub ++ [g])) = g := by
    rw [lastComp, hs, List.getLastD_concat]
  split
  next h =>
    rw [resolve_of_ext_nil cur (by rw [extChars_eq, hl, h]), splitSlash_append _ _ slash_not_mem_less,
      hs, hl, List.dropLast_concat, List.append_assoc]
  next h =>
    rw [resolve_of_ext_ne_nil cur (by rwa [extChars_eq, hl]), hs, List.append_assoc]

/-- the text a unit contributes when nothing is imported -/
def Unit'.text : Unit' → String
  | .other t => t
  | .imp _ raw => raw

/-- units → units, with `sub tgt us` for the units `us` of an imported file `tgt` -/
def pasteUWith (files : Files) (sub : Path → List Unit' → List Unit') (cur : Path) :
    List Unit' → List Unit'
  | [] => []
  | .other t :: r => .other t :: pasteUWith files sub cur r
  | .imp ip raw :: r =>
      (if isLess ip then
        match findFile files (resolve cur ip) with
        | none => []
        | some us => sub (resolve cur ip) us
       else [.imp ip raw]) ++ pasteUWith files sub cur r

/-- the units of the one file obtained by pasting: every LESS import statement replaced by the pasted
    units of the file it names; the other units, the non-LESS import statements among them, are kept -/
def pasteU (files : Files) : Nat → Path → List Unit' → List Unit'
  | 0 => pasteUWith files (fun _ _ => [])
  | d + 1 => pasteUWith files (pasteU files d)

/-- no LESS import statement is left -/
def nonLessOnly : List Unit' → Bool
  | [] => true
  | .other _ :: r => nonLessOnly r
  | .imp ip _ :: r => !isLess ip && nonLessOnly r

theorem nonLessOnly_append (a b : List Unit') :
    nonLessOnly (a ++ b) = (nonLessOnly a && nonLessOnly b) := by
  induction a with
  | nil => rfl
  | cons u r ih => cases u <;> simp [nonLessOnly, ih, Bool.and_assoc]

theorem pasteUWith_spec (files : Files) {sub : Path → List Unit' → List String}
    {subU : Path → List Unit' → List Unit'}
    (hs : ∀ p us, nonLessOnly (subU p us) = true ∧ (subU p us).map Unit'.text = sub p us)
    (cur : Path) (us : List Unit') :
    nonLessOnly (pasteUWith files subU cur us) = true ∧
    (pasteUWith files subU cur us).map Unit'.text = pasteWith files sub cur us := by
  induction us with
  | nil => exact ⟨rfl, rfl⟩
  | cons u r ih =>
    obtain ⟨h1, h2⟩ := ih
    cases u with
    | other t => simp [pasteWith, pasteUWith, nonLessOnly, Unit'.text, h1, h2]
    | imp ip raw =>
      cases hl : isLess ip with
      | false => simp [pasteWith, pasteUWith, nonLessOnly, Unit'.text, hl, h1, h2]
      | true =>
        cases hf : findFile files (resolve cur ip) with
        | none => simp [pasteWith, pasteUWith, hl, hf, h1, h2]
        | some uf => simp [pasteWith, pasteUWith, nonLessOnly_append, hl, hf, hs, h1, h2]

theorem pasteU_spec (files : Files) (d : Nat) (cur : Path) (us : List Unit') :
    nonLessOnly (pasteU files d cur us) = true ∧
    (pasteU files d cur us).map Unit'.text = paste files d cur us := by
  induction d generalizing cur us with
  | zero => exact pasteUWith_spec files (subU := fun _ _ => []) (fun _ _ => ⟨rfl, rfl⟩) cur us
  | succ d ih => exact pasteUWith_spec files ih cur us

/-- without LESS imports `sub` is not consulted at all -/
theorem specWith_of_nonLessOnly (files : Files) (subP) (subM) (cur : Path) {us : List Unit'}
    (h : nonLessOnly us = true) :
    pasteWith files subP cur us = us.map Unit'.text ∧ missingWith files subM cur us = [] := by
  induction us with
  | nil => exact ⟨rfl, rfl⟩
  | cons u r ih =>
    cases u with
    | other t => simpa [pasteWith, missingWith, Unit'.text] using ih h
    | imp ip raw =>
      simp only [nonLessOnly, Bool.and_eq_true, Bool.not_eq_true'] at h
      simpa [pasteWith, missingWith, Unit'.text, h.1] using ih h.2

/-- what the loader of level `9 - b` makes of an imported file: its output, nothing if it aborted -/
def subOut (files : Files) (b : Nat) (p : Path) (us : List Unit') : List String :=
  ((load files b p us).1).getD []

/-- … and its register, with `tooDeep` after it if it aborted -/
def subErrs (files : Files) (b : Nat) (p : Path) (us : List Unit') : List IErr :=
  (load files b p us).2 ++ if (load files b p us).1.isNone then [.tooDeep] else []

/-- below level 9 the loader is the recursion of the specification, over the loader of the next level -/
theorem load_succ (files : Files) (b : Nat) (cur : Path) (us : List Unit') :
    load files (b + 1) cur us =
      (some (pasteWith files (subOut files b) cur us), missingWith files (subErrs files b) cur us) := by
  induction us with
  | nil => rw [load]; rfl
  | cons u r ih =>
    cases u with
    | other t => rw [load, ih]; rfl
    | imp ip raw =>
      rw [load, ih]
      simp only [pasteWith, missingWith, subOut, subErrs]
      cases isLess ip with
      | false => rfl
      | true =>
        cases findFile files (resolve cur ip) with
        | none => rfl
        | some vs => rcases h : load files b (resolve cur ip) vs with ⟨_ | o, e⟩ <;> simp [h]

/-- the parser of level 9 finishes exactly the files without import statement; on those it is the
    specification of depth 0 (the text of the units, no error) -/
theorem load_zero (files : Files) (cur : Path) (us : List Unit') :
    load files 0 cur us =
      if noImp us then (some (paste files 0 cur us), missingOf files 0 cur us) else (none, []) := by
  induction us with
  | nil => rw [load]; rfl
  | cons u r ih =>
    cases u with
    | other t => rw [load, ih, noImp]; cases noImp r <;> rfl
    | imp ip raw => rw [load]; rfl

/-- a level-9 parser that meets an import statement (of any kind) aborts -/
theorem load_zero_imp (files : Files) (cur : Path) {us : List Unit'} {ip raw : String}
    (h : Unit'.imp ip raw ∈ us) : (load files 0 cur us).1 = none := by
  have hn : noImp us = false := by
    induction us with
    | nil => cases h
    | cons u r ih =>
      cases u with
      | other t => exact ih (by simpa using h)
      | imp ip' raw' => rfl
  rw [load_zero, hn]; rfl

theorem load_nonLessOnly (files : Files) (b : Nat) (cur : Path) (us : List Unit')
    (h : nonLessOnly us = true) : load files (b + 1) cur us = (some (us.map Unit'.text), []) := by
  obtain ⟨h1, h2⟩ := specWith_of_nonLessOnly files (subOut files b) (subErrs files b) cur h
  rw [load_succ, h1, h2]

end Lessm.Imp
