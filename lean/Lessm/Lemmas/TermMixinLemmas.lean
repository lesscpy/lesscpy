/-
  Definitions and lemmas for C20 (termination of mixin expansion): the model-only `gas` of
  `Lessm.Mixin.evalItems` is never the binding constraint, the depth limit alone bounds the recursion.
  `nestItems`/`nestTbl` measure static nesting, `gasBound` is the gas that suffices; `CrashLe a b` says
  that `a` is `b` or ran out of gas (more gas changes nothing else: `evalItems_crashLe`); `Reaches`,
  `trap_err` are for runaway recursion.  The last part evaluates the guarded countdown `.loop(n)` for
  every `n` (`loop_eval`, `compile_countdownSheet`); it needs that `Num.analyze` reads `toString k`
  back as `k` (`analyze_toString`).  The statements of C20 built from these are explained at the head
  of Lessm/Props/C20Mixin.lean.
-/
import Lessm.Lemmas.MixinLemmas
import Lessm.Lemmas.Basic

namespace Lessm.Mixin
open Lessm.Vars Lessm.Sel

mutual
/-- gas needed by one item when no call expands to anything -/
def nestItem : Item → Nat
  | .decl _ _ => 1
  | .rule _ body => nestItems body + 1
  | .call _ _ => 1
def nestItems : List Item → Nat
  | [] => 0
  | i :: r => max (nestItem i) (nestItems r)
end

def maxOf : List Nat → Nat
  | [] => 0
  | a :: r => max a (maxOf r)

def nestTbl (tbl : Table) : Nat :=
  max (maxOf (tbl.mixins.map (fun nd => nestItems nd.2.body)))
      (maxOf (tbl.blocks.map (fun nb => nestItems nb.2)))

/-- gas that is enough for `items` against `tbl`, whatever the depth counter, scope and selector:
    the static nesting of `items`, plus 65 call levels (counters 0 … 64) of at most `nestTbl tbl`
    each (the unit of gas consumed by the call is the unit counted for the call item in the static
    nesting of the body it stands in) -/
def gasBound (tbl : Table) (items : List Item) : Nat := nestItems items + 65 * nestTbl tbl

/-- gas that is enough for `compile` (every top-level rule is also a plain-rule body of the table) -/
def gasBoundSheet (sheet : List Top) : Nat := 66 * nestTbl (buildTable sheet)

/-- `a` ran out of gas or is `b`: the order in which a result can only improve when gas is added -/
def CrashLe {α : Type} (a b : Except Err α) : Prop := a = .error .crash ∨ a = b

mutual
/-- an item that cannot fail: a declaration of literal tokens, a rule of such items -/
def quietItem : Item → Bool
  | .decl _ v => !hasRef v
  | .rule _ body => quietItems body
  | .call _ _ => false
def quietItems : List Item → Bool
  | [] => true
  | i :: r => quietItem i && quietItems r
end

/-- `items` contains the argument-less call of `name`, as a direct item or inside nested rules; at
    every level the items in front of it satisfy `P` -/
inductive Reaches (P : List Item → Prop) (name : String) : List Item → Prop
  | here (pre post : List Item) : P pre → Reaches P name (pre ++ .call name [] :: post)
  | inside (pre : List Item) (sel : List Tok) (body post : List Item) : P pre →
      Reaches P name body → Reaches P name (pre ++ .rule sel body :: post)

theorem CrashLe.refl {α : Type} (a : Except Err α) : CrashLe a a := .inr rfl

theorem CrashLe.bind {α β : Type} {a a' : Except Err α} {f f' : α → Except Err β}
    (h : CrashLe a a') (hf : ∀ x, CrashLe (f x) (f' x)) : CrashLe (a >>= f) (a' >>= f') := by
  rcases h with h | h
  · left; rw [h]; rfl
  · subst h
    cases a with
    | error e => right; rfl
    | ok x => exact hf x

theorem CrashLe.bind_ok {α β : Type} {a : Except Err α} {x : α} {f : α → Except Err β}
    {c : Except Err β} (h : CrashLe a (.ok x)) (hf : CrashLe (f x) c) : CrashLe (a >>= f) c := by
  rcases h with h | h <;> rw [h]
  · exact .inl rfl
  · exact hf

theorem CrashLe.eq {α : Type} {a b : Except Err α} (h : CrashLe a b) (hn : a ≠ .error .crash) :
    a = b := by
  rcases h with h | h
  · exact absurd h hn
  · exact h

theorem bind_ne_crash {α β : Type} {a : Except Err α} {f : α → Except Err β}
    (h : a ≠ .error .crash) (hf : ∀ x, f x ≠ .error .crash) : (a >>= f) ≠ .error .crash :=
  fun h' => (Except.bind_eq_error.1 h').elim h fun ⟨x, _, hx⟩ => hf x hx

theorem pure_ne_crash {α : Type} (x : α) : (pure x : Except Err α) ≠ .error .crash :=
  fun h => nomatch h

theorem liftV_ne_crash {α : Type} (a : Except Vars.Err α) : liftV a ≠ .error .crash := by
  cases a with
  | ok x => nofun
  | error e => cases e <;> nofun

theorem evalArg_ne_crash (sc : Scope) (a : Arg) : evalArg sc a ≠ .error .crash := by
  cases a with
  | val v =>
    rw [evalArg_val]
    split
    · split <;> nofun
    · nofun
  | arith n k =>
    rw [evalArg_arith]
    refine bind_ne_crash (liftV_ne_crash _) fun v => ?_
    unfold arithVal
    split
    · dsimp only; split <;> nofun
    · nofun

theorem mapM_ne_crash {α β : Type} {f : α → Except Err β} (hf : ∀ a, f a ≠ .error .crash)
    (l : List α) : l.mapM f ≠ .error .crash := by
  induction l with
  | nil => exact pure_ne_crash _
  | cons a l ih =>
    rw [List.mapM_cons]
    exact bind_ne_crash (hf a) fun _ => bind_ne_crash ih fun _ => pure_ne_crash _

theorem nestItems_cons_pos (i : Item) (r : List Item) : 1 ≤ nestItems (i :: r) := by
  refine Nat.le_trans ?_ (Nat.le_max_left (nestItem i) (nestItems r))
  cases i with
  | decl p v => exact Nat.le_refl 1
  | rule s b => exact Nat.le_add_left 1 _
  | call n a => exact Nat.le_refl 1

theorem le_maxOf {l : List Nat} {a : Nat} (h : a ∈ l) : a ≤ maxOf l := by
  induction l with
  | nil => cases h
  | cons b r ih =>
    rcases List.mem_cons.mp h with rfl | h
    · exact Nat.le_max_left ..
    · exact Nat.le_trans (ih h) (Nat.le_max_right ..)

theorem nestItems_mixin_le {tbl : Table} {n : String} {m : MixinDef} (h : (n, m) ∈ tbl.mixins) :
    nestItems m.body ≤ nestTbl tbl :=
  Nat.le_trans (le_maxOf (List.mem_map.mpr ⟨_, h, rfl⟩)) (Nat.le_max_left ..)

theorem nestItems_block_le {tbl : Table} {n : String} {b : List Item} (h : (n, b) ∈ tbl.blocks) :
    nestItems b ≤ nestTbl tbl :=
  Nat.le_trans (le_maxOf (List.mem_map.mpr ⟨_, h, rfl⟩)) (Nat.le_max_right ..)

theorem expandCall_cases (tbl : Table) (d : Nat) (sc : Scope) (me : List Sel) (name : String)
    (args' : List Value) :
    (∃ sc' body, nestItems body ≤ nestTbl tbl ∧
      ∀ g, expandCall tbl g d sc me name args' = evalItems tbl g d true sc' me body) ∨
    ∀ g, expandCall tbl g d sc me name args' = .ok ([], []) := by
  unfold expandCall
  split
  next m fr hfa =>
    exact .inl ⟨_, _, nestItems_mixin_le (mem_candidates (firstApplicable_some hfa).1), fun _ => rfl⟩
  · split
    · split
      next body hb =>
        obtain ⟨k, hk⟩ := block_mem hb
        exact .inl ⟨_, _, nestItems_block_le hk, fun _ => rfl⟩
      · exact .inr fun _ => rfl
    · exact .inr fun _ => rfl

/-! ### M1: more gas changes nothing but "out of gas" -/

theorem evalItems_crashLe (tbl : Table) (g g' : Nat) (hg : g ≤ g') (d : Nat) (ie : Bool) (sc : Scope)
    (me : List Sel) (items : List Item) :
    CrashLe (evalItems tbl g d ie sc me items) (evalItems tbl g' d ie sc me items) := by
  induction g generalizing g' d ie sc me items with
  | zero =>
    cases items with
    | nil => right; rw [evalItems_nil, evalItems_nil]
    | cons it rest => left; rw [evalItems_zero]
  | succ g ih =>
    obtain ⟨g', rfl⟩ := Nat.exists_eq_add_one_of_ne_zero (Nat.ne_zero_of_lt hg)
    have ih' := ih g' (Nat.le_of_succ_le_succ hg)
    induction items with
    | nil => right; rw [evalItems_nil, evalItems_nil]
    | cons it rest ihr =>
      cases it with
      | decl p v =>
        rw [evalItems_decl, evalItems_decl]
        exact .bind (.refl _) fun _ => .bind ihr fun _ => .refl _
      | rule sel body =>
        rw [evalItems_rule, evalItems_rule]
        exact .bind (ih' ..) fun _ => .bind ihr fun _ => .refl _
      | call name args =>
        rw [C05_call_unfold, C05_call_unfold]
        split
        · exact .refl _
        · refine .bind (.refl _) fun args' => .bind ?_ fun _ => .bind ihr fun _ => .refl _
          rcases expandCall_cases tbl (callDepth ie d) sc me name args' with ⟨_, _, _, h⟩ | h
          · rw [h, h]; exact ih' ..
          · rw [h, h]; exact .refl _

/-! ### M2: the depth limit alone bounds the recursion -/

/-- the number of call levels still available below a call met at (`ie`, `d`); it equals
    `65 - callDepth ie d`, the form in which M3 and M4 count the levels down -/
def levelsLeft (ie : Bool) (d : Nat) : Nat := if ie then 64 - d else 65

theorem levelsLeft_le (ie : Bool) (d : Nat) : levelsLeft ie d ≤ 65 := by
  cases ie
  · exact Nat.le_refl 65
  · exact Nat.le_trans (Nat.sub_le 64 d) (Nat.le_succ 64)

theorem levelsLeft_call {ie : Bool} {d : Nat} (h : ¬ callDepth ie d > 64) :
    levelsLeft ie d = levelsLeft true (callDepth ie d) + 1 := by
  cases ie
  · rfl
  · -- `64 - (d + 1)` is the predecessor of `64 - d`, which is positive
    exact (Nat.succ_pred_eq_of_pos (Nat.sub_pos_of_lt (Nat.le_of_not_lt h))).symm

/-- **C20_mixin_gas_enough_depth** (sharp form): a rule consumes one unit of gas and one level of
    static nesting; a call consumes one unit, one of the `levelsLeft` call levels, and restarts the
    static nesting at `nestTbl tbl` at most; a call at counter 65 stops. -/
theorem C20_mixin_gas_enough_depth (tbl : Table) (g d : Nat) (ie : Bool) (sc : Scope)
    (me : List Sel) (items : List Item)
    (h : nestItems items + levelsLeft ie d * nestTbl tbl ≤ g) :
    evalItems tbl g d ie sc me items ≠ .error .crash := by
  induction g generalizing d ie sc me items with
  | zero =>
    cases items with
    | nil => rw [evalItems_nil]; nofun
    | cons it rest =>
      exact absurd (Nat.le_trans (nestItems_cons_pos it rest) (Nat.le_trans (Nat.le_add_right ..) h))
        (Nat.not_succ_le_zero 0)
  | succ g ih =>
    induction items with
    | nil => rw [evalItems_nil]; nofun
    | cons it rest ihr =>
      rw [nestItems] at h
      have hrest := ihr (Nat.le_trans (Nat.add_le_add_right (Nat.le_max_right ..) _) h)
      have hit := Nat.le_trans (Nat.add_le_add_right (Nat.le_max_left ..) _) h
      cases it with
      | decl p v =>
        rw [evalItems_decl]
        exact bind_ne_crash (liftV_ne_crash _) fun _ => bind_ne_crash hrest fun _ => pure_ne_crash _
      | rule sel body =>
        rw [evalItems_rule]
        rw [nestItem, Nat.add_right_comm] at hit
        exact bind_ne_crash (ih _ _ _ _ _ (Nat.le_of_succ_le_succ hit)) fun _ =>
          bind_ne_crash hrest fun _ => pure_ne_crash _
      | call name args =>
        rw [C05_call_unfold]
        split
        · nofun
        next hd =>
          -- the call takes one unit of gas and one of the `levelsLeft ie d` levels:
          -- `hit` becomes `nestTbl tbl + levelsLeft true (callDepth ie d) * nestTbl tbl + 1 ≤ g + 1`
          rw [nestItem, levelsLeft_call hd, Nat.succ_mul, Nat.add_comm 1, Nat.add_comm _ (nestTbl tbl)]
            at hit
          refine bind_ne_crash (mapM_ne_crash (evalArg_ne_crash sc) args) fun args' =>
            bind_ne_crash ?_ fun _ => bind_ne_crash hrest fun _ => pure_ne_crash _
          rcases expandCall_cases tbl (callDepth ie d) sc me name args' with ⟨_, _, hb, h⟩ | h
          · rw [h]
            exact ih _ _ _ _ _ (Nat.le_trans (Nat.add_le_add_right hb _) (Nat.le_of_succ_le_succ hit))
          · rw [h]; nofun

/-- **C20_mixin_gas_enough**: with `gasBound tbl items = nestItems items + 65 * nestTbl tbl`
    units of gas no evaluation runs out of gas, whatever the counter, the scope and the selector. -/
theorem C20_mixin_gas_enough (tbl : Table) (g d : Nat) (ie : Bool) (sc : Scope) (me : List Sel)
    (items : List Item) (h : gasBound tbl items ≤ g) :
    evalItems tbl g d ie sc me items ≠ .error .crash :=
  C20_mixin_gas_enough_depth tbl g d ie sc me items (Nat.le_trans
    (Nat.add_le_add_left (Nat.mul_le_mul_right (nestTbl tbl) (levelsLeft_le ie d)) _) h)

/-! ### the same two facts for `compile` -/

theorem compileRules_crashLe (tbl : Table) (g g' : Nat) (h : g ≤ g')
    (rs : List (List Tok × List Item)) : CrashLe (compileRules tbl g rs) (compileRules tbl g' rs) := by
  induction rs with
  | nil => exact .refl _
  | cons r rs ih =>
    obtain ⟨sel, body⟩ := r
    simp only [compileRules, compileRule]
    exact .bind (.bind (evalItems_crashLe tbl g g' h ..) fun _ => .refl _) fun _ =>
      .bind ih fun _ => .refl _

theorem compileRules_ne_crash (tbl : Table) (g : Nat) (rs : List (List Tok × List Item))
    (h : ∀ r ∈ rs, gasBound tbl r.2 ≤ g) : compileRules tbl g rs ≠ .error .crash := by
  induction rs with
  | nil => nofun
  | cons r rs ih =>
    obtain ⟨sel, body⟩ := r
    rw [List.forall_mem_cons] at h
    simp only [compileRules, compileRule]
    exact bind_ne_crash (bind_ne_crash (C20_mixin_gas_enough tbl g _ _ _ _ _ h.1) fun _ =>
      pure_ne_crash _) fun _ => bind_ne_crash (ih h.2) fun _ => pure_ne_crash _

theorem rulesOf_block (sheet : List Top) :
    ∀ r ∈ rulesOf sheet, ∃ k, (k, r.2) ∈ (buildTable sheet).blocks := by
  induction sheet with
  | nil => exact List.forall_mem_nil _
  | cons t rest ih =>
    cases t with
    | mdef n d => exact ih
    | rule sel body =>
      intro r hr
      rcases List.mem_cons.1 hr with rfl | hr
      · exact ⟨_, List.mem_cons_self⟩
      · exact (ih r hr).imp fun _ h => List.mem_cons_of_mem _ h

theorem gasBound_rule_le (sheet : List Top) :
    ∀ r ∈ rulesOf sheet, gasBound (buildTable sheet) r.2 ≤ gasBoundSheet sheet := by
  intro r hr
  obtain ⟨k, hk⟩ := rulesOf_block sheet r hr
  have := nestItems_block_le hk
  unfold gasBound gasBoundSheet
  omega

/-! ### M3: recursion without a base case -/

theorem quiet_crashLe_ok (tbl : Table) (g d : Nat) (ie : Bool) (sc : Scope) (me : List Sel)
    (items : List Item) (h : quietItems items = true) :
    ∃ r, CrashLe (evalItems tbl g d ie sc me items) (.ok r) := by
  induction g generalizing sc me items with
  | zero =>
    cases items with
    | nil => exact ⟨_, .inr (evalItems_nil ..)⟩
    | cons it rest => exact ⟨([], []), .inl (evalItems_zero ..)⟩
  | succ g ih =>
    induction items with
    | nil => exact ⟨_, .inr (evalItems_nil ..)⟩
    | cons it rest ihr =>
      rw [quietItems, Bool.and_eq_true] at h
      obtain ⟨⟨ds, out⟩, hr⟩ := ihr h.2
      cases it with
      | decl p v =>
        rw [evalItems_decl, expand_of_noRef sc 64 v (by simpa [quietItem] using h.1)]
        exact ⟨_, hr.bind_ok (.refl _)⟩
      | rule sel body =>
        obtain ⟨⟨ds1, out1⟩, h1⟩ := ih ([] :: sc) (identParse (some me) sel) body h.1
        rw [evalItems_rule]
        exact ⟨_, h1.bind_ok (hr.bind_ok (.refl _))⟩
      | call name args => cases h.1

theorem quiet_error (tbl : Table) {g d : Nat} {ie : Bool} {sc : Scope} {me : List Sel}
    {items : List Item} {e : Err} (hq : quietItems items = true)
    (h : evalItems tbl g d ie sc me items = .error e) : e = .crash := by
  obtain ⟨r, h1 | h1⟩ := quiet_crashLe_ok tbl g d ie sc me items hq <;> rw [h1] at h <;> cases h
  rfl

theorem Reaches.mono {P Q : List Item → Prop} (hPQ : ∀ l, P l → Q l) {name : String}
    {items : List Item} (h : Reaches P name items) : Reaches Q name items := by
  induction h with
  | here pre post hp => exact .here pre post (hPQ _ hp)
  | inside pre sel body post hp _ ih => exact .inside pre sel body post (hPQ _ hp) ih

theorem firstApplicable_parameterless (sc : Scope) (body : List Item) (hne : body ≠ []) :
    firstApplicable sc [] [⟨[], [], body⟩] = some (⟨[], [], body⟩, [("arguments", [])]) := by
  have : body.isEmpty = false := by cases body <;> simp_all
  simp [firstApplicable, tryMixin, bindParams, guardHolds, intersperseSp, this]

/-- `S` is a set of errors that contains "out of gas".  If the call of `name` is an error in `S` wherever
    it stands (`H`), and the items in front of it, at every level, can only fail with errors in `S`
    (`hP`), then every body that reaches the call is an error in `S`: evaluation is in order, so either
    an item in front fails, or the call (or the nested rule that holds it) is evaluated and fails. -/
theorem reaches_err (tbl : Table) (S : Err → Prop) (hS : S .crash) (d : Nat) (ie : Bool)
    (name : String) (P : List Item → Prop)
    (H : ∀ (g : Nat) (sc : Scope) (me : List Sel) (post : List Item),
      ∃ e, evalItems tbl g d ie sc me (.call name [] :: post) = .error e ∧ S e)
    (hP : ∀ pre, P pre → ∀ (g : Nat) (sc : Scope) (me : List Sel) (e : Err),
      evalItems tbl g d ie sc me pre = .error e → S e) :
    ∀ body, Reaches P name body → ∀ (g : Nat) (sc : Scope) (me : List Sel),
      ∃ e, evalItems tbl g d ie sc me body = .error e ∧ S e := by
  -- an error in `S` behind a prefix whose own errors are in `S`
  have app {pre tl : List Item} {g : Nat} {sc : Scope} {me : List Sel} (hp : P pre) :
      (∃ e, evalItems tbl g d ie sc me tl = .error e ∧ S e) →
      ∃ e, evalItems tbl g d ie sc me (pre ++ tl) = .error e ∧ S e := by
    rintro ⟨e, he, hse⟩
    rw [evalItems_append]
    cases hpre : evalItems tbl g d ie sc me pre with
    | error e' => exact ⟨e', rfl, hP pre hp g sc me e' hpre⟩
    | ok r0 => rw [he]; exact ⟨e, rfl, hse⟩
  intro body hr
  induction hr with
  | here pre post hp => exact fun g sc me => app hp (H g sc me post)
  | inside pre sel body post hp _ ih =>
    intro g sc me
    refine app hp ?_
    cases g with
    | zero => exact ⟨_, evalItems_zero .., hS⟩
    | succ g =>
      obtain ⟨e, he, hse⟩ := ih g ([] :: sc) (identParse (some me) sel)
      exact ⟨e, by rw [evalItems_rule, he]; rfl, hse⟩

/-- the trap: nodes `i : ι` with `C i` name parameterless, unguarded, singly defined mixins whose body
    reaches the call of another such node `i'`.  A call of node `i` met with `k = 65 - callDepth` levels
    to go is an error in `S k i`, for every family `S` that contains "out of gas", the `NameError` of
    the node reached at the limit, the errors of the items in front of the calls, and is handed from
    `i'` back to `i` with one level more. -/
theorem trap_err {ι : Type} (tbl : Table) (nm : ι → String) (C : ι → Prop)
    (P : List Item → Prop) (S : Nat → ι → Err → Prop)
    (hS1 : ∀ k i, S k i .crash) (hS2 : ∀ i, S 0 i (.nameError (nm i)))
    (hP : ∀ pre, P pre → ∀ (g d : Nat) (ie : Bool) (sc : Scope) (me : List Sel) (e : Err),
      evalItems tbl g d ie sc me pre = .error e → ∀ k i, S k i e)
    (hC : ∀ i, C i → ∃ i' body, C i' ∧ (∀ k e, S k i' e → S (k + 1) i e) ∧
      tbl.candidates (nm i) = [⟨[], [], body⟩] ∧ Reaches P (nm i') body) :
    ∀ (k : Nat) (i : ι), C i → ∀ (d : Nat) (ie : Bool), 65 - callDepth ie d = k →
      ∀ (g : Nat) (sc : Scope) (me : List Sel) (rest : List Item),
        ∃ e, evalItems tbl g d ie sc me (.call (nm i) [] :: rest) = .error e ∧ S k i e := by
  intro k
  induction k with
  | zero =>
    intro i _ d ie hk g sc me rest
    cases g with
    | zero => exact ⟨_, evalItems_zero .., hS1 _ _⟩
    | succ g =>
      rw [C05_call_unfold, if_pos (show callDepth ie d > 64 from Nat.le_of_sub_eq_zero hk)]
      exact ⟨_, rfl, hS2 i⟩
  | succ k ih =>
    intro i hi d ie hk g sc me rest
    cases g with
    | zero => exact ⟨_, evalItems_zero .., hS1 _ _⟩
    | succ g =>
      obtain ⟨i', body, hnext, hback, hcand, hreach⟩ := hC i hi
      obtain ⟨e, he, hse⟩ := reaches_err tbl (S k i') (hS1 _ _) (callDepth ie d) true (nm i') P
        (ih i' hnext (callDepth ie d) true (congrArg Nat.pred hk))
        (fun pre hp g sc me e he => hP pre hp g _ _ sc me e he _ _) body hreach g
        ([("arguments", [])] :: sc) me
      have hne : body ≠ [] := by cases hreach <;> simp
      refine ⟨e, ?_, hback _ _ hse⟩
      rw [evalItems_call_some rest (Nat.le_of_lt_succ (Nat.lt_of_sub_eq_succ hk)) rfl
        (hcand ▸ firstApplicable_parameterless sc body hne), he]
      rfl

/-- `trap_err` on the chain `nm 0 → nm 1 → …`: the items in front of the calls cannot fail, so the
    only errors are "out of gas" and the `NameError` of the mixin met when no level is left, which is
    `k` steps down the chain from a call with `k` levels to go -/
theorem chain_err (tbl : Table) (nm : Nat → String)
    (h : ∀ i, ∃ body, tbl.candidates (nm i) = [⟨[], [], body⟩] ∧
      Reaches (fun pre => quietItems pre = true) (nm (i + 1)) body)
    (i g d : Nat) (ie : Bool) (sc : Scope) (me : List Sel) (rest : List Item) :
    ∃ e, evalItems tbl g d ie sc me (.call (nm i) [] :: rest) = .error e ∧
      (e = .crash ∨ e = .nameError (nm (i + (65 - callDepth ie d)))) := by
  refine trap_err tbl nm (fun _ => True) (fun pre => quietItems pre = true)
    (fun k i e => e = .crash ∨ e = .nameError (nm (i + k)))
    (fun _ _ => .inl rfl) (fun _ => .inr rfl)
    (fun pre hp g d ie sc me e he k i => .inl (quiet_error tbl hp he)) (fun i _ => ?_)
    _ i trivial d ie rfl g sc me rest
  obtain ⟨body, h1, h2⟩ := h i
  refine ⟨i + 1, body, trivial, fun k e he => he.imp_right fun he => ?_, h1, h2⟩
  rw [he, Nat.add_assoc, Nat.add_comm 1 k]

/-! ### M4: the countdown `.loop(@i) when (@i > 0) { w: @i; .loop(@i - 1); }`

Decimal numerals: `toString k` is read back as `k` by `Num.analyze` (the lexeme of a number). -/

theorem numIsDigit_eq (c : Char) : Num.isDigit c = c.isDigit := by
  simp [Num.isDigit, Char.isDigit, Char.le_def]

theorem digitsVal_eq (l : List Char) : Num.digitsVal l = Nat.ofDigitChars 10 l 0 := by
  unfold Num.digitsVal Nat.ofDigitChars
  congr 1
  funext acc c
  rw [Nat.mul_comm]

theorem splitUnit_digits (l : List Char) (hne : l ≠ []) (h : ∀ c ∈ l, Num.isDigit c = true) :
    Num.splitUnit l = some (l, []) := by
  have h' : ∀ c ∈ l, (Num.isDigit c || c == '.') = true := fun c hc => by rw [h c hc]; rfl
  unfold Num.splitUnit
  -- `heq` is the match on a leading `-`, which a list of digits does not have
  split
  next heq =>
    split at heq
    · exact absurd (h '-' List.mem_cons_self) (by decide)
    · cases heq
      simp [List.takeWhile_all h', List.dropWhile_all h', hne]

theorem parseDec_digits (l : List Char) (hne : l ≠ []) (h : ∀ c ∈ l, Num.isDigit c = true) :
    Num.parseDec l = some (Num.digitsVal l : Rat) := by
  unfold Num.parseDec
  -- as in `splitUnit_digits`: no leading `-`; then the integer part is all of `l` and nothing follows
  split
  next heq =>
    split at heq
    · exact absurd (h '-' List.mem_cons_self) (by decide)
    · cases heq
      simp [List.takeWhile_all h, List.dropWhile_all h, hne, show Num.digitsVal [] = 0 from rfl,
        Rat.div_def, Rat.zero_mul, Rat.add_zero]

theorem analyze_toString (k : Nat) : Num.analyze (toString k).toList = some ((k : Rat), []) := by
  have hd : ∀ c ∈ Nat.toDigits 10 k, Num.isDigit c = true := fun c hc => by
    rw [numIsDigit_eq]; exact Nat.isDigit_of_mem_toDigits (by decide) (by decide) hc
  have hne : Nat.toDigits 10 k ≠ [] := Nat.toDigits_ne_nil
  rw [Nat.toString_eq_repr, Nat.toList_repr]
  simp only [Num.analyze, splitUnit_digits _ hne hd, parseDec_digits _ hne hd, digitsVal_eq,
    Nat.ofDigitChars_ten_toDigits, Option.pure_def, Option.bind_eq_bind, Option.bind_some]

theorem numOf_toString (k : Nat) : numOf [.lit (toString k)] = some (k : Rat) := by
  simp only [numOf, analyze_toString, Option.map]

theorem unitOf_toString (k : Nat) : unitOf [.lit (toString k)] = "" := by
  simp only [unitOf, analyze_toString]

theorem arithVal_pred (k : Nat) :
    arithVal [.lit (toString (k + 1))] (-1) = .ok [.lit (toString k)] := by
  have hr : (((k + 1 : Nat) : Rat) + ((-1 : Int) : Rat)) = ((k : Nat) : Rat) := by
    rw [← Rat.intCast_natCast, ← Rat.intCast_natCast, ← Rat.intCast_add]
    congr 1; omega
  rw [arithVal_num _ (numOf_toString _), unitOf_toString, hr]
  by_cases hk : k = 0
  · subst hk; rfl
  · have : ¬ ((k : Nat) : Rat) = 0 := by simpa using hk
    simp only [this, if_false, Rat.num_natCast, Rat.den_natCast, if_true, String.append_empty]
    rfl

theorem expand_ref_lit {sc : Scope} {n s : String} (h : lookup sc n = some [.lit s]) (f : Nat) :
    expand sc (f + 1) [.ref n] = .ok [.lit s] := by
  rw [expand_succ, if_pos (show hasRef [.ref n] = true from rfl), substOnce_single, h]
  exact expand_of_noRef sc f _ rfl

/-- `.loop(@i) when (@i > 0) { w: @i; .loop(@i - 1); }` -/
def loopDef : MixinDef :=
  { params := [("i", none)], guard := [[⟨false, "i", .gt, 0⟩]],
    body := [.decl "w" [.ref "i"], .call ".loop" [.arith "i" (-1)]] }

/-- the frame of the expansion `.loop(k)` -/
def loopFrame (k : Nat) : Frame := [("i", [.lit (toString k)]), ("arguments", [.lit (toString k)])]

theorem lookup_loopFrame (k : Nat) (sc : Scope) :
    lookup (loopFrame k :: sc) "i" = some [.lit (toString k)] := by
  simp [lookup, loopFrame, Frame.get]

theorem condHolds_loop (sc : Scope) (k : Nat) :
    condHolds (loopFrame k) sc ⟨false, "i", .gt, 0⟩ = decide (0 < k) := by
  have hg : Frame.get (loopFrame k) "i" = some [.lit (toString k)] := by
    simp [loopFrame, Frame.get]
  simp only [condHolds, hg, Option.bind, numOf_toString, Guard.Cmp.eval, Bool.false_eq_true,
    if_false]
  exact decide_eq_decide.mpr Rat.natCast_pos

theorem firstApplicable_loop (sc : Scope) (k : Nat) :
    firstApplicable sc [[.lit (toString k)]] [loopDef] =
      if 0 < k then some (loopDef, loopFrame k) else none := by
  have hf : [("i", [VTok.lit (toString k)])] ++
      [("arguments", intersperseSp [[VTok.lit (toString k)]])] = loopFrame k := rfl
  -- the one argument binds `i`, which with `@arguments` is `loopFrame k` (`hf`); the body is not empty;
  -- the guard is its one condition, decided by `condHolds_loop`
  simp only [firstApplicable, tryMixin, loopDef, bindParams, Option.map, List.isEmpty_cons,
    Bool.false_eq_true, if_false, hf, guardHolds, List.any_cons, List.all_cons, List.any_nil,
    List.all_nil, condHolds_loop, Bool.and_true, Bool.or_false, Bool.not_false, Bool.false_or,
    decide_eq_true_eq]
  by_cases hk : 0 < k <;> simp only [hk, if_true, if_false]

/-- `[("w", k), ("w", k-1), …, ("w", 1)]` -/
def countdown (k : Nat) : List (String × String) :=
  (List.range k).map (fun j => ("w", toString (k - j)))

theorem countdown_succ (k : Nat) : countdown (k + 1) = ("w", toString (k + 1)) :: countdown k := by
  simp only [countdown, List.range_succ_eq_map, List.map_cons, List.map_map, Nat.sub_zero]
  congr 1
  apply List.map_congr_left
  intro j _
  -- the composed function of the two `map`s, applied
  show ("w", toString (k + 1 - (j + 1))) = ("w", toString (k - j))
  rw [Nat.add_sub_add_right]

theorem evalArg_loop_pred (sc : Scope) (k : Nat) :
    evalArg (loopFrame (k + 1) :: sc) (.arith "i" (-1)) = .ok [.lit (toString k)] := by
  -- closing with `exact arithVal_pred k` while the bind is unreduced costs 4.6M heartbeats: the
  -- unifier unfolds `arithVal`
  simp only [evalArg_arith, expand_ref_lit (lookup_loopFrame (k + 1) sc), liftV, bind, Except.bind,
    arithVal_pred]

theorem loop_call_zero (tbl : Table) (hc : tbl.candidates ".loop" = [loopDef]) (g d : Nat)
    (ie : Bool) (sc : Scope) (me : List Sel) (a : Arg)
    (ha : evalArg sc a = .ok [.lit (toString 0)]) (hd : callDepth ie d ≤ 64) :
    evalItems tbl (g + 1) d ie sc me [.call ".loop" [a]] = .ok ([], []) := by
  rw [C05_call_unfold, if_neg (Nat.not_lt_of_le hd), evalItems_nil]
  -- the one candidate fails its guard (`firstApplicable_loop`, `0 < 0`) and, there being a candidate, no plain
  -- rule is looked for: the call contributes nothing
  simp only [List.mapM_cons, List.mapM_nil, ha, expandCall, hc, firstApplicable_loop, bind,
    Except.bind, pure, Except.pure, Nat.lt_irrefl, if_false, List.isEmpty_cons, Bool.false_eq_true,
    List.append_nil]

theorem loop_call_succ (tbl : Table) (hc : tbl.candidates ".loop" = [loopDef]) (g d k : Nat)
    (ie : Bool) (sc : Scope) (me : List Sel) (a : Arg)
    (ha : evalArg sc a = .ok [.lit (toString (k + 1))]) (hd : callDepth ie d ≤ 64) :
    evalItems tbl (g + 2) d ie sc me [.call ".loop" [a]] =
      (evalItems tbl (g + 1) (callDepth ie d) true (loopFrame (k + 1) :: sc) me
        [.call ".loop" [.arith "i" (-1)]]).map fun r => (("w", toString (k + 1)) :: r.1, r.2) := by
  -- the call is the body `w: @i; .loop(@i - 1)` in `loopFrame (k + 1)`
  rw [C05_call_mixin tbl (g + 1) d ie sc me ".loop" [a] [[.lit (toString (k + 1))]] loopDef
      (loopFrame (k + 1)) hd (by rw [List.mapM_cons, ha]; rfl)
      (by rw [hc, firstApplicable_loop, if_pos (Nat.succ_pos k)]),
    show loopDef.body = [.decl "w" [.ref "i"], .call ".loop" [.arith "i" (-1)]] from rfl,
    evalItems_decl, expand_ref_lit (lookup_loopFrame (k + 1) sc)]
  cases evalItems tbl (g + 1) (callDepth ie d) true (loopFrame (k + 1) :: sc) me
      [.call ".loop" [.arith "i" (-1)]] with
  | error e => rfl
  | ok r =>
    -- `w: @i` prints the one literal of `@i`, in front of what the inner call yields
    simp [liftV, bind, Except.bind, pure, Except.pure, valText, litText, String.join, Except.map]

/-- `.loop(k)` met with `j` levels to go counts down to zero if `k < j` and runs into the limit
    otherwise; every level takes one unit of gas -/
theorem loop_eval (tbl : Table) (hc : tbl.candidates ".loop" = [loopDef]) (j k g d : Nat)
    (ie : Bool) (sc : Scope) (me : List Sel) (a : Arg)
    (ha : evalArg sc a = .ok [.lit (toString k)]) (hj : 65 - callDepth ie d = j)
    (hg : min k j < g) :
    evalItems tbl g d ie sc me [.call ".loop" [a]] =
      if k < j then .ok (countdown k, []) else .error (.nameError ".loop") := by
  obtain ⟨g, rfl⟩ := Nat.exists_eq_add_one_of_ne_zero (Nat.ne_zero_of_lt hg)
  induction j generalizing k g d ie sc a with
  | zero =>
    rw [if_neg (Nat.not_lt_zero k), C05_call_unfold,
      if_pos (show callDepth ie d > 64 from Nat.le_of_sub_eq_zero hj)]
  | succ j ih =>
    have hd : callDepth ie d ≤ 64 := Nat.le_of_lt_succ (Nat.lt_of_sub_eq_succ hj)
    cases k with
    | zero => rw [if_pos (Nat.succ_pos j), loop_call_zero tbl hc g d ie sc me a ha hd]; rfl
    | succ k =>
      rw [Nat.succ_min_succ] at hg
      obtain ⟨g, rfl⟩ := Nat.exists_eq_add_one_of_ne_zero (Nat.ne_zero_of_lt (Nat.lt_of_succ_lt_succ hg))
      rw [loop_call_succ tbl hc g d k ie sc me a ha hd,
        ih k (callDepth ie d) true _ _ (evalArg_loop_pred sc k) (congrArg Nat.pred hj) g
          (Nat.lt_of_succ_lt_succ hg)]
      by_cases h : k < j
      · rw [if_pos h, if_pos (Nat.succ_lt_succ h), countdown_succ]; rfl
      · rw [if_neg h, if_neg (fun h' => h (Nat.lt_of_succ_lt_succ h'))]; rfl

/-- the sheet `.loop(@i) when (@i > 0) { w: @i; .loop(@i - 1); }  .a { .loop(n); }` -/
def countdownSheet (n : Nat) : List Top :=
  [.mdef ".loop" loopDef, .rule [".a"] [.call ".loop" [.val [.lit (toString n)]]]]

theorem compile_countdownSheet (n g : Nat) (hg : min n 65 < g) :
    compile g (countdownSheet n) =
      if n < 65 then .ok (if n = 0 then [] else [⟨[[".a"]], countdown n⟩])
      else .error (.nameError ".loop") := by
  have hc : (buildTable (countdownSheet n)).candidates ".loop" = [loopDef] := by
    simp [countdownSheet, buildTable, Table.candidates]
  have ha : identParse none [".a"] = [[".a"]] := by decide +kernel
  have h := loop_eval _ hc 65 n g 0 false [[], []] [[".a"]] (.val [.lit (toString n)]) rfl rfl hg
  rw [C05_rule_still_emitted,
    show rulesOf (countdownSheet n) = [([".a"], [.call ".loop" [.val [.lit (toString n)]]])] from rfl]
  simp only [compileRules, compileRule, ha, h]
  split
  · cases n with
    | zero => rfl
    | succ n => rw [countdown_succ]; rfl
  · rfl

end Lessm.Mixin
