/-
  Generic lemmas on context-free grammars over numbered symbols (`Lessm.Model.Cfg`):

  * the weight lemma: if a weight assignment is consistent with every production, every derived
    terminal string has the weight of the symbol it was derived from;
  * the prefix lemma: with a certificate of prefix lower bounds, no prefix of a derived string weighs
    less than the bound of the symbol;
  * the executable check `LR.balanced` characterised by total weight and prefix weights;
  * the validating LR driver accepts only sentences (`run_sound`).
-/
import Lessm.Model.Cfg
import Lessm.Model.LR
import Lessm.Lemmas.Basic

namespace Lessm.Cfg

theorem sumT_nil (tw : Nat → Int) : sumT tw [] = 0 := rfl

theorem sumT_cons (tw : Nat → Int) (a : Nat) (w : List Nat) :
    sumT tw (a :: w) = tw a + sumT tw w := by
  simp [sumT]

theorem sumT_append (tw : Nat → Int) (a b : List Nat) :
    sumT tw (a ++ b) = sumT tw a + sumT tw b := by
  simp [sumT, List.map_append, List.sum_append]

theorem derivesL_nil_inv {G : Grammar} {w : List Nat} (h : DerivesL G [] w) : w = [] := by
  cases h; rfl

theorem derivesL_cons_inv {G : Grammar} {s : Sym} {ss : List Sym} {w : List Nat}
    (h : DerivesL G (s :: ss) w) :
    ∃ w1 w2, w = w1 ++ w2 ∧ Derives G s w1 ∧ DerivesL G ss w2 := by
  cases h with
  | cons _ _ w1 w2 h1 h2 => exact ⟨w1, w2, rfl, h1, h2⟩

theorem derivesL_single_inv {G : Grammar} {s : Sym} {w : List Nat}
    (h : DerivesL G [s] w) : Derives G s w := by
  obtain ⟨w1, w2, rfl, h1, h2⟩ := derivesL_cons_inv h
  rw [derivesL_nil_inv h2, List.append_nil]
  exact h1

theorem derivesL_single {G : Grammar} {s : Sym} {w : List Nat}
    (h : Derives G s w) : DerivesL G [s] w :=
  List.append_nil w ▸ DerivesL.cons s [] w [] h .nil

theorem derivesL_append {G : Grammar} {b : List Sym} {v : List Nat} (hb : DerivesL G b v) :
    ∀ (a : List Sym) (u : List Nat), DerivesL G a u → DerivesL G (a ++ b) (u ++ v) := by
  intro a
  induction a with
  | nil =>
    intro u h
    rw [derivesL_nil_inv h]
    exact hb
  | cons s ss ih =>
    intro u h
    obtain ⟨w1, w2, rfl, h1, h2⟩ := derivesL_cons_inv h
    rw [List.append_assoc]
    exact .cons s (ss ++ b) w1 (w2 ++ v) h1 (ih w2 h2)

theorem derivesL_split {G : Grammar} {b : List Sym} :
    ∀ (a : List Sym) (w : List Nat), DerivesL G (a ++ b) w →
      ∃ u v, w = u ++ v ∧ DerivesL G a u ∧ DerivesL G b v := by
  intro a
  induction a with
  | nil => exact fun w h => ⟨[], w, rfl, .nil, h⟩
  | cons s ss ih =>
    intro w h
    obtain ⟨w1, w2, rfl, h1, h2⟩ := derivesL_cons_inv h
    obtain ⟨u, v, rfl, hu, hv⟩ := ih w2 h2
    exact ⟨w1 ++ u, v, (List.append_assoc ..).symm, .cons s ss w1 u h1 hu, hv⟩

/-- the two recursors of the mutual pair `Derives` / `DerivesL` used together: one set of cases,
    both conclusions -/
theorem derives_induction {G : Grammar} {P : Sym → List Nat → Prop}
    {Q : List Sym → List Nat → Prop}
    (term : ∀ a, P (.t a) [a])
    (rule : ∀ p ∈ G.prods, ∀ w, DerivesL G p.rhs w → Q p.rhs w → P (.nt p.lhs) w)
    (nil : Q [] [])
    (cons : ∀ s ss w1 w2, Derives G s w1 → DerivesL G ss w2 → P s w1 → Q ss w2 →
      Q (s :: ss) (w1 ++ w2)) :
    (∀ s w, Derives G s w → P s w) ∧ (∀ ss w, DerivesL G ss w → Q ss w) :=
  ⟨fun _ _ h => Derives.rec (motive_1 := fun s w _ => P s w) (motive_2 := fun ss w _ => Q ss w)
      term rule nil cons h,
   fun _ _ h => DerivesL.rec (motive_1 := fun s w _ => P s w) (motive_2 := fun ss w _ => Q ss w)
      term rule nil cons h⟩

/-- the non-terminal weights `nw` are consistent with the terminal weights `tw` on every production -/
def Consistent (G : Grammar) (tw nw : Nat → Int) : Prop :=
  ∀ p ∈ G.prods, nw p.lhs = (p.rhs.map (wt tw nw)).sum

/-- **derives_weight**: under a consistent weight assignment the weight of a derived terminal string
    is the weight of the symbol (string) it was derived from -/
theorem derives_weight (G : Grammar) (tw nw : Nat → Int) (hc : Consistent G tw nw) :
    (∀ s w, Derives G s w → sumT tw w = wt tw nw s) ∧
    (∀ ss w, DerivesL G ss w → sumT tw w = (ss.map (wt tw nw)).sum) := by
  refine derives_induction (fun a => ?_) (fun p hp w _ ih => ?_) rfl
    (fun s ss w1 w2 _ _ ih1 ih2 => ?_)
  · simp [sumT, wt]
  · rw [wt, hc p hp]; exact ih
  · rw [sumT_append, ih1, ih2, List.map_cons, List.sum_cons]

theorem consistent_of_B {prods : List Rule} {twL nwL : List (Nat × Int)}
    (h : consistentB prods twL nwL = true) : Consistent ⟨prods⟩ (look twL) (look nwL) :=
  fun p hp => by simpa using List.all_eq_true.mp h p hp

/-- lower bound on the weight of every prefix of a string derived from a symbol -/
def lowSym (tw : Nat → Int) (low : Nat → Int) : Sym → Int
  | .t a => min 0 (tw a)
  | .nt a => low a

/-- the certificate of prefix lower bounds is closed under every production -/
def LowOk (G : Grammar) (tw nw low : Nat → Int) : Prop :=
  ∀ p ∈ G.prods, low p.lhs ≤ lowSeq tw nw low p.rhs 0 0

theorem lowOk_of_B {prods : List Rule} {twL nwL lowL : List (Nat × Int)}
    (h : lowOkB prods twL nwL lowL = true) :
    LowOk ⟨prods⟩ (look twL) (look nwL) (look lowL) :=
  fun p hp => by simpa using List.all_eq_true.mp h p hp

theorem lowSeq_cons (tw nw low : Nat → Int) (s : Sym) (ss : List Sym) (acc best : Int) :
    lowSeq tw nw low (s :: ss) acc best
      = lowSeq tw nw low ss (acc + wt tw nw s) (min best (acc + lowSym tw low s)) := by
  cases s <;> rfl

theorem lowSeq_le_best (tw nw low : Nat → Int) :
    ∀ (ss : List Sym) (acc best : Int), lowSeq tw nw low ss acc best ≤ best := by
  intro ss
  induction ss with
  | nil => exact fun _ best => Int.le_refl best
  | cons s ss ih =>
    intro acc best
    rw [lowSeq_cons]
    exact Int.le_trans (ih _ _) (Int.min_le_left _ _)

/-- **derives_prefix**: under a consistent weight assignment and a closed certificate of prefix lower
    bounds, no prefix of a string derived from `s` weighs less than the bound of `s` (and no prefix of
    a string derived from a symbol string weighs less than its `lowSeq` bound) -/
theorem derives_prefix (G : Grammar) (tw nw low : Nat → Int) (hc : Consistent G tw nw)
    (hl : LowOk G tw nw low) :
    (∀ s w, Derives G s w → ∀ p, p <+: w → lowSym tw low s ≤ sumT tw p) ∧
    (∀ ss w, DerivesL G ss w → ∀ p, p <+: w → lowSeq tw nw low ss 0 0 ≤ sumT tw p) := by
  have hw := (derives_weight G tw nw hc).1
  -- for the induction the bound on symbol strings is stated for every state `acc`, `best` of
  -- `lowSeq` whose running minimum is not above its running weight; a step of `lowSeq` keeps
  -- that, since `lowSym s ≤ wt s` for a symbol that derives something
  refine (fun ⟨hS, hL⟩ => ⟨hS, fun ss w h p hp =>
      Int.zero_add (sumT tw p) ▸ hL ss w h 0 0 (Int.le_refl 0) p hp⟩)
    (derives_induction (P := fun s w => ∀ p, p <+: w → lowSym tw low s ≤ sumT tw p)
      (Q := fun ss w => ∀ acc best, best ≤ acc → ∀ p, p <+: w →
        lowSeq tw nw low ss acc best ≤ acc + sumT tw p) ?_ ?_ ?_ ?_)
  · intro a
    simp only [List.forall_prefix_cons, List.prefix_nil, forall_eq, sumT_cons, sumT_nil, lowSym]
    omega
  · intro p hp w _ ih q hq
    exact Int.le_trans (hl p hp) (Int.zero_add (sumT tw q) ▸ ih 0 0 (Int.le_refl 0) q hq)
  · intro acc best hb p hp
    rw [List.prefix_nil.mp hp, sumT_nil, Int.add_zero]
    exact hb
  · intro s ss w1 w2 h1 _ ih1 ih2 acc best _ q hq
    rw [lowSeq_cons]
    have hb : ∀ {x}, lowSym tw low s ≤ x → min best (acc + lowSym tw low s) ≤ acc + x := fun h =>
      Int.le_trans (Int.min_le_right _ _) (Int.add_le_add_left h acc)
    rcases List.prefix_or_prefix_of_prefix hq (List.prefix_append w1 w2) with h | ⟨q', rfl⟩
    · exact Int.le_trans (lowSeq_le_best ..) (hb (ih1 q h))
    · rw [sumT_append, hw s w1 h1, ← Int.add_assoc]
      exact ih2 _ _ (hb (hw s w1 h1 ▸ ih1 w1 (List.prefix_refl w1))) q'
        ((List.prefix_append_right_inj w1).mp hq)

open Lessm.LR in
theorem balancedFrom_iff (tw : Nat → Int) :
    ∀ (w : List Nat) (acc : Int), 0 ≤ acc →
      (balancedFrom tw acc w = true ↔
        (acc + sumT tw w = 0 ∧ ∀ p, p <+: w → 0 ≤ acc + sumT tw p)) := by
  intro w
  induction w with
  | nil =>
    intro acc _
    simp only [balancedFrom, sumT_nil, beq_iff_eq, List.prefix_nil, forall_eq]
    omega
  | cons t r ih =>
    intro acc hacc
    simp only [balancedFrom, List.forall_prefix_cons, sumT_cons, sumT_nil, ← Int.add_assoc]
    by_cases hlt : acc + tw t < 0
    · rw [if_pos hlt]
      refine ⟨nofun, fun ⟨_, _, h⟩ => ?_⟩
      have := h [] List.nil_prefix
      rw [sumT_nil] at this
      omega
    · rw [if_neg hlt, ih (acc + tw t) (by omega)]
      exact ⟨fun ⟨a, b⟩ => ⟨a, by omega, b⟩, fun ⟨a, _, b⟩ => ⟨a, b⟩⟩

open Lessm.LR in
/-- **balanced_iff**: the executable check says exactly "total weight zero and no prefix negative" -/
theorem balanced_iff (tw : Nat → Int) (w : List Nat) :
    balanced tw w = true ↔ (sumT tw w = 0 ∧ ∀ p, p <+: w → 0 ≤ sumT tw p) := by
  rw [balanced, balancedFrom_iff tw w 0 (Int.le_refl 0)]
  simp only [Int.zero_add]

end Lessm.Cfg

namespace Lessm.LR
open Lessm.Cfg

/-- the grammar symbols on the stack, bottom to top -/
def symsOf : Stack → List Sym
  | [] => []
  | (_, some s) :: rest => symsOf rest ++ [s]
  | (_, none) :: rest => symsOf rest

theorem popN_syms : ∀ (n : Nat) (stack : Stack) (syms : List Sym) (rest : Stack),
    popN n stack = some (syms, rest) → symsOf stack = symsOf rest ++ syms := by
  intro n stack syms rest h
  fun_induction popN n stack generalizing syms with
  | case1 st =>
    cases h
    exact (List.append_nil _).symm
  | case2 n _ s tl ih =>
    obtain ⟨⟨p1, p2⟩, hp, heq⟩ := Option.map_eq_some_iff.mp h
    cases heq
    rw [symsOf, ih p1 hp, List.append_assoc]
  | case3 => cases h

/-- the stack derives the consumed part of the input -/
def Inv (G : Grammar) (w0 : List Nat) (stack : Stack) (input : List Nat) : Prop :=
  ∃ u, DerivesL G (symsOf stack) u ∧ u ++ input = w0

/-- **run_sound**: if the validating parse loop accepts from a configuration whose stack derives the
    consumed input, the whole input is a sentence of the grammar — whatever the tables -/
theorem run_sound (prods : List Rule) (action goto : Table) (eof start : Nat) (w0 : List Nat) :
    ∀ (fuel : Nat) (stack : Stack) (input : List Nat) (pos : Nat),
      run prods action goto eof start fuel stack input pos = .accept →
      Inv ⟨prods⟩ w0 stack input → Derives ⟨prods⟩ (.nt start) w0 := by
  intro fuel stack input pos h hinv
  -- the cases come in the order in which the branches of `LR.run` are written
  fun_induction run prods action goto eof start fuel stack input pos with
  | case5 fuel pos st snd tail a ha t rest la hla ih =>        -- shift `t`
    obtain ⟨u, hu, hw⟩ := hinv
    exact ih h ⟨u ++ [t], derivesL_append (derivesL_single (.term t)) _ _ hu, by simpa using hw⟩
  | case7 fuel input pos st snd tail la a hla hnpos hneg p hp syms st' x rest hsyms g hg hpop ih =>
    -- reduce by `p`
    rw [hpop] at h
    simp only [hsyms, hg, if_true] at h
    obtain ⟨u, hu, hw⟩ := hinv
    rw [popN_syms _ _ _ _ hpop, beq_iff_eq.mp hsyms] at hu
    obtain ⟨u1, u2, rfl, h1, h2⟩ := derivesL_split _ _ hu
    exact ih h ⟨u1 ++ u2,
      derivesL_append (derivesL_single (.rule (G := ⟨prods⟩) p (List.mem_of_getElem? hp) u2 h2)) _ _ h1, hw⟩
  | case11 fuel pos st snd tail a hnpos hnneg fst s fst' hs heq =>        -- accept
    obtain ⟨u, hu, hw⟩ := hinv
    rw [heq] at hu
    simp only [symsOf, List.nil_append, List.append_nil] at hu hw
    rw [← hw, ← beq_iff_eq.mp hs]
    exact derivesL_single_inv hu
  | _ => simp [*] at h        -- every other branch of `run` ends in `.stuck` or `.error`
end Lessm.LR
