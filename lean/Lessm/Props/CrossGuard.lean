/-
  CrossGuard  Two more cross-model theorems (continuing Props/Cross.lean).

    X7  the guard test of the mixin evaluator (`Mixin.guardHolds`, any/all over `Mixin.condHolds`) is the
        verdict of the guard model (`Guard.passes`: lesscpy's token loop `parse_guards` over the token list
        the grammar builds), on the guard translated condition by condition.
    X8  the arithmetic of a mixin call argument `@n + k` (`Mixin.evalArg sc (.arith n k)`) is the
        arithmetic model's `Expr.evalE` on `leaf ⟨q,u⟩ + leaf ⟨k,""⟩`, printed.
-/
import Lessm.Lemmas.MixinLemmas
import Lessm.Model.Expr
import Lessm.Props.C06

namespace Lessm.Cross

/-- a Mixin guard condition `[not] (@param cmp lit)` as a condition of the guard model; `idx` numbers
    the parameter names -/
def toCond (idx : String → Nat) (c : Mixin.GCond) : Guard.Cond :=
  ⟨c.neg, .param (idx c.param), c.cmp, .lit c.lit⟩

def toGuard (idx : String → Nat) (g : List (List Mixin.GCond)) : Guard.Guard :=
  g.map (List.map (toCond idx))

/-- ρ gives, for every parameter named in the guard, the number the mixin evaluator compares: the
    frame's value if it is numeric, else the scope's -/
def Reads (fr : Vars.Frame) (sc : Vars.Scope) (idx : String → Nat) (ρ : Nat → Rat)
    (g : List (List Mixin.GCond)) : Prop :=
  ∀ ch ∈ g, ∀ c ∈ ch,
    ((Vars.Frame.get fr c.param).bind Mixin.numOf = some (ρ (idx c.param))) ∨
    ((Vars.Frame.get fr c.param).bind Mixin.numOf = none ∧
      (Vars.lookup sc c.param).bind Mixin.numOf = some (ρ (idx c.param)))

/-- how an outcome of the arithmetic model is written in the mixin model's value text -/
def outcomeText : Expr.Outcome → Option String
  | .ok v u => some (toString v.num ++ (if v.den = 1 then "" else "/" ++ toString v.den) ++ u)
  | _ => none

/-- `evalE` on two leaves joined by an operator other than `/`: no special case applies, the result is
    `withUnits` -/
theorem evalE_bin_leaves (o : Expr.Op) (ho : o ≠ .div) (a b : Expr.Operand) :
    Expr.evalE (.bin o (.leaf a) (.leaf b)) = Expr.withUnits (Expr.applyOp o a.val b.val) a.unit b.unit := by
  simp [Expr.evalE, ho]

theorem outcomeText_withUnits (r : Rat) (u : String) :
    outcomeText (Expr.withUnits r u "") =
      some (if r = 0 then "0"
        else toString r.num ++ (if r.den = 1 then "" else "/" ++ toString r.den) ++ u) := by
  unfold Expr.withUnits
  by_cases h : r = 0
  · simp only [h, if_true]
    decide +kernel
  · simp only [h, if_false]
    by_cases hu : u = "" <;> simp [hu, outcomeText]

theorem guardHolds_eq_holds (fr : Vars.Frame) (sc : Vars.Scope) (idx : String → Nat) (ρ : Nat → Rat)
    (g : List (List Mixin.GCond)) (hne : g ≠ []) (hr : Reads fr sc idx ρ g) :
    Mixin.guardHolds fr sc g = Guard.holds (toGuard idx g) ρ := by
  unfold Mixin.guardHolds Guard.holds toGuard
  rw [List.isEmpty_eq_false_iff.mpr hne, Bool.false_or, List.any_map]
  refine List.any_congr_mem fun ch hch => ?_
  rw [Function.comp, List.all_map]
  refine List.all_congr_mem fun c hc => ?_
  -- either way both sides compare `ρ (idx c.param)` with the literal
  rcases hr ch hch c hc with h | ⟨h1, h2⟩
  · simp only [Mixin.condHolds, h]
    rfl
  · simp only [Mixin.condHolds, h1, h2]
    rfl

/-- **X7**: on every well-formed guard (`Guard.GuardOK` of the translated guard: at least one chain, no
    empty chain, no written `!=`) and every assignment ρ that holds, for each parameter the guard names,
    the number the mixin evaluator reads for it (`Reads`), the mixin evaluator's guard test is the
    verdict of lesscpy's token loop on the tokens the grammar builds. -/
theorem mixin_guard_is_guard_model (fr : Vars.Frame) (sc : Vars.Scope) (idx : String → Nat) (ρ : Nat → Rat)
    (g : List (List Mixin.GCond)) (hok : Guard.GuardOK (toGuard idx g))
    (hr : Reads fr sc idx ρ g) :
    Mixin.guardHolds fr sc g = Guard.passes (toGuard idx g) ρ := by
  rw [Guard.C06 _ _ hok]
  exact guardHolds_eq_holds fr sc idx ρ g (fun h => hok.1 (by rw [h]; rfl)) hr

/-- **X7, complement**: a condition on a parameter that is numeric neither in the frame nor in the
    scope fails, with or without `not` (so its chain fails); no ρ describes it. -/
theorem mixin_guard_nonnumeric_fails (fr : Vars.Frame) (sc : Vars.Scope) (c : Mixin.GCond)
    (h1 : (Vars.Frame.get fr c.param).bind Mixin.numOf = none)
    (h2 : (Vars.lookup sc c.param).bind Mixin.numOf = none) :
    Mixin.condHolds fr sc c = false := by
  simp only [Mixin.condHolds, h1, h2]

/-- the chain of such a condition fails -/
theorem mixin_guard_nonnumeric_chain_fails (fr : Vars.Frame) (sc : Vars.Scope) (ch : List Mixin.GCond)
    (c : Mixin.GCond) (hc : c ∈ ch)
    (h1 : (Vars.Frame.get fr c.param).bind Mixin.numOf = none)
    (h2 : (Vars.lookup sc c.param).bind Mixin.numOf = none) :
    ch.all (Mixin.condHolds fr sc) = false := by
  rw [List.all_eq_false]
  exact ⟨c, hc, by simp [mixin_guard_nonnumeric_fails fr sc c h1 h2]⟩

/-- **X8**: when `@n` expands to a numeric value `q` with unit `u`, the argument `@n + k` evaluates to
    the one literal token that prints `Expr.evalE (q u + k)`: the sum, a zero bare, an integral result
    without fraction, the unit of `@n` kept.  All `k : Int` (a negative `k` is `@n - |k|`, see
    `mixin_arith_is_expr_model_sub`), all `q`, `q = 0` included: no extra hypothesis. -/
theorem mixin_arith_is_expr_model (sc : Vars.Scope) (n : String) (k : Int) (v : Vars.Value) (q : Rat)
    (hv : Vars.expand sc 64 [.ref n] = .ok v) (hq : Mixin.numOf v = some q) :
    ∃ s, outcomeText (Expr.evalE (.bin .add (.leaf ⟨q, Mixin.unitOf v⟩) (.leaf ⟨(k : Rat), ""⟩))) = some s
      ∧ Mixin.evalArg sc (.arith n k) = .ok [.lit s] := by
  rw [evalE_bin_leaves .add (by decide), Expr.applyOp, outcomeText_withUnits, Mixin.evalArg_arith, hv]
  exact ⟨_, rfl, Mixin.arithVal_num k hq⟩

/-- **X8, as written with a minus**: `@n - j` is the argument `.arith n (-j)`, and the arithmetic
    model's subtraction. -/
theorem mixin_arith_is_expr_model_sub (sc : Vars.Scope) (n : String) (j : Int) (v : Vars.Value) (q : Rat)
    (hv : Vars.expand sc 64 [.ref n] = .ok v) (hq : Mixin.numOf v = some q) :
    ∃ s, outcomeText (Expr.evalE (.bin .sub (.leaf ⟨q, Mixin.unitOf v⟩) (.leaf ⟨(j : Rat), ""⟩))) = some s
      ∧ Mixin.evalArg sc (.arith n (-j)) = .ok [.lit s] := by
  obtain ⟨s, h1, h2⟩ := mixin_arith_is_expr_model sc n (-j) v q hv hq
  refine ⟨s, ?_, h2⟩
  rw [evalE_bin_leaves .add (by decide), Expr.applyOp] at h1
  rw [evalE_bin_leaves .sub (by decide), Expr.applyOp]
  simpa [Rat.sub_eq_add_neg] using h1

/-! ### non-vacuity -/

/-- `when (@a > 3) and (@b < 10), not (@a = 20)` with `@a` bound in the frame (`25px`), `@b` not numeric
    in the frame (`foo`) and read from the caller's scope (`4`; `tryMixin` tests the guard against the
    callee's frame and the caller's scope) -/
private def exFr : Vars.Frame := [("a", [.lit "25px"]), ("b", [.lit "foo"])]
private def exSc : Vars.Scope := [[("c", [.lit "x"])], [("b", [.lit "4"]), ("a", [.lit "1"])]]
private def exIdx : String → Nat := fun s => if s = "a" then 0 else 1
private def exRho : Nat → Rat := fun i => if i = 0 then 25 else 4
private def exG : List (List Mixin.GCond) :=
  [[⟨false, "a", .gt, 3⟩, ⟨false, "b", .lt, 10⟩], [⟨true, "a", .eq, 20⟩]]

example : Guard.GuardOK (toGuard exIdx exG) := by
  refine ⟨by decide, ?_, ?_⟩ <;> decide

example : Reads exFr exSc exIdx exRho exG := by
  unfold Reads
  decide +kernel

example : Mixin.guardHolds exFr exSc exG = true ∧ Guard.passes (toGuard exIdx exG) exRho = true := by
  decide +kernel

/-- the second chain alone (`not (@a = 20)` with `@a = 20`) and the first alone with `@b = 12` fail on both sides -/
example : Mixin.guardHolds [("a", [.lit "20"])] [] [[⟨true, "a", .eq, 20⟩]] = false
    ∧ Guard.passes (toGuard exIdx [[⟨true, "a", .eq, 20⟩]]) (fun _ => 20) = false := by decide +kernel

/-- the complement: `@b` numeric nowhere — the condition fails with and without `not` -/
example : Mixin.condHolds exFr [exFr] ⟨false, "b", .lt, 10⟩ = false
    ∧ Mixin.condHolds exFr [exFr] ⟨true, "b", .lt, 10⟩ = false := by decide +kernel

/-- X8 on `@w: 5px`: `@w + -5` is `0` (bare), `@w + 2` is `7px` -/
private def exW : Vars.Scope := [[("w", [.lit "5px"])]]

example : Vars.expand exW 64 [.ref "w"] = .ok [.lit "5px"] ∧ Mixin.numOf [.lit "5px"] = some 5
    ∧ Mixin.unitOf [.lit "5px"] = "px" := by decide +kernel

example : Mixin.evalArg exW (.arith "w" (-5)) = .ok [.lit "0"]
    ∧ outcomeText (Expr.evalE (.bin .add (.leaf ⟨5, "px"⟩) (.leaf ⟨((-5 : Int) : Rat), ""⟩))) = some "0" := by
  decide +kernel

example : Mixin.evalArg exW (.arith "w" 2) = .ok [.lit "7px"]
    ∧ outcomeText (Expr.evalE (.bin .add (.leaf ⟨5, "px"⟩) (.leaf ⟨((2 : Int) : Rat), ""⟩))) = some "7px" := by
  decide +kernel

/-- a zero operand is no special case of `+` in the arithmetic model: `@z: 0px`, `@z + 3` is `3px` -/
example : Mixin.evalArg [[("z", [.lit "0px"])]] (.arith "z" 3) = .ok [.lit "3px"]
    ∧ outcomeText (Expr.evalE (.bin .add (.leaf ⟨0, "px"⟩) (.leaf ⟨((3 : Int) : Rat), ""⟩))) = some "3px" := by
  decide +kernel

/-- a fractional value: `@h: 0.5em`, `@h + 1` is printed `3/2em` on both sides -/
example : Mixin.evalArg [[("h", [.lit "0.5em"])]] (.arith "h" 1) = .ok [.lit "3/2em"]
    ∧ outcomeText (Expr.evalE (.bin .add (.leaf ⟨1/2, "em"⟩) (.leaf ⟨((1 : Int) : Rat), ""⟩))) = some "3/2em" := by
  decide +kernel

end Lessm.Cross
