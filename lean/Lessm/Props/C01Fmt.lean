/-
  C01 at character level: the selector printer `Identifier.fmt` (`Lessm.Model.IdentFmt`) changes a plain selector only where
  it must.  Only the three combinator marks `?>?` `?+?` `?~?` are decoded (`C01_fmt_marks`, `_mark_only`, `_decode`); a quoted
  piece is printed as written whatever blanks it holds (`C01_fmt_quoted`); outside quotes the function is the left-to-right
  `replace('  ', ' ')` (`C01_fmt_noquote`), which leaves a text without a double blank alone (`C01_fmt_collapse_id`).
-/
import Lessm.Model.IdentFmt
import Lessm.Lemmas.Basic

namespace Lessm.IdentFmt

theorem replaceChar_append (c : Char) (b x y : List Char) :
    replaceChar c b (x ++ y) = replaceChar c b x ++ replaceChar c b y := by
  induction x with
  | nil => simp [replaceChar]
  | cons a x ih =>
    simp only [List.cons_append, replaceChar]
    split <;> simp [ih]

theorem replaceChar_of_not_mem {c : Char} {b t : List Char} (h : c ∉ t) :
    replaceChar c b t = t := by
  induction t with
  | nil => rfl
  | cons a t ih =>
    simp only [List.mem_cons, not_or] at h
    have hac : (a == c) = false := beq_eq_false_iff_ne.mpr fun e => h.1 e.symm
    simp [replaceChar, hac, ih h.2]

/-- **C01_fmt_marks**: `Identifier.fmt` takes a token for a combinator mark exactly when it is `?>?`, `?+?` or `?~?`; a token
    that merely contains question marks (an attribute value `[t="?x?"]`) is none. -/
theorem C01_fmt_marks (t : List Char) (c : Char) :
    markOf t = some c ↔ (t = ['?', c, '?'] ∧ (c = '>' ∨ c = '+' ∨ c = '~')) := by
  constructor
  · intro h
    unfold markOf at h
    split at h
    · split at h
      · next hc =>
        cases h
        exact ⟨rfl, by simpa only [Bool.or_eq_true, beq_iff_eq, or_assoc] using hc⟩
      · cases h
    · cases h
  · rintro ⟨rfl, h⟩
    rcases h with rfl | rfl | rfl <;> rfl

theorem collapseOutsideAux_fuel (f1 f2 : Nat) (acc s : List Char) (h1 : s.length ≤ f1) (h2 : s.length ≤ f2) :
    collapseOutsideAux f1 acc s = collapseOutsideAux f2 acc s := by
  induction f1 generalizing f2 acc s with
  | zero =>
    obtain rfl := List.eq_nil_of_length_eq_zero (Nat.le_zero.mp h1)
    cases f2 <;> rfl
  | succ f1 ih =>
    cases s with
    | nil => cases f2 <;> rfl
    | cons c r =>
      cases f2 with
      | zero => exact absurd h2 (Nat.not_succ_le_zero _)
      | succ f2 =>
        have h1 := Nat.le_of_succ_le_succ h1
        have h2 := Nat.le_of_succ_le_succ h2
        simp only [collapseOutsideAux]
        split
        · split
          · next rest heq =>
            -- what is left behind the closing quote is shorter than `r`
            have hlen := (List.dropWhile_sublist (· != c) (l := r)).length_le
            rw [heq, List.length_cons] at hlen
            rw [ih f2 [] rest (by omega) (by omega)]
          · exact ih f2 _ r h1 h2
        · exact ih f2 _ r h1 h2

theorem collapseOutsideAux_prefix (pre : List Char) (hpre : ∀ c ∈ pre, c ≠ '"' ∧ c ≠ '\'') :
    ∀ (fuel : Nat) (acc r : List Char),
      collapseOutsideAux (fuel + pre.length) acc (pre ++ r) = collapseOutsideAux fuel (pre.reverse ++ acc) r := by
  induction pre with
  | nil => intros; simp
  | cons c p ih =>
    intro fuel acc r
    have hc := hpre c (List.mem_cons_self ..)
    have hq : (c == '"' || c == '\'') = false := by simp [hc.1, hc.2]
    have e : fuel + (c :: p).length = (fuel + p.length) + 1 := by
      simp only [List.length_cons]; omega
    rw [e, List.cons_append]
    simp only [collapseOutsideAux, hq]
    rw [ih (fun c hc => hpre c (List.mem_cons_of_mem _ hc))]
    simp

/-- **C01_fmt_mark_only**: a token that is no mark reaches the join unchanged. -/
theorem C01_fmt_mark_only (t : List Char) (h : markOf t = none) : markTok t = t := by
  simp [markTok, h]

/-- **C01_fmt_decode**: marking with NUL and `.replace('\0', ws)` together print each mark `?c?` as `ws c ws` and every other
    token as it is, for tokens without NUL (the lexer delivers none). -/
theorem C01_fmt_decode (ws : List Char) (ts : List (List Char)) (hn : ∀ t ∈ ts, nul ∉ t) :
    replaceChar nul ws (ts.flatMap markTok)
      = ts.flatMap (fun t => match markOf t with | some c => ws ++ [c] ++ ws | none => t) := by
  induction ts with
  | nil => simp [replaceChar]
  | cons t ts ih =>
    simp only [List.flatMap_cons, replaceChar_append]
    rw [ih (fun t ht => hn t (List.mem_cons_of_mem _ ht))]
    congr 1
    have hnt := hn t (List.mem_cons_self ..)
    unfold markTok
    cases hm : markOf t with
    | none => simp [replaceChar_of_not_mem hnt]
    | some c =>
      rcases (C01_fmt_marks t c).1 hm with ⟨_, rfl | rfl | rfl⟩ <;> simp [replaceChar, nul]

/-- **C01_fmt_collapse_id**: `.replace('  ', ' ')` leaves a text without two adjacent blanks as it is. -/
theorem C01_fmt_collapse_id (s : List Char)
    (h : ∀ i, ¬ (s[i]? = some ' ' ∧ s[i+1]? = some ' ')) : collapse s = s := by
  fun_induction collapse s with
  | case1 r ih => exact absurd ⟨rfl, rfl⟩ (h 0)
  | case2 x r hne ih =>
    rw [ih (fun i => by simpa using h (i+1))]
  | case3 => rfl

/-- **C01_fmt_noquote**: on a selector text without quote characters the split at quoted pieces does nothing: the whole
    text goes through `.replace('  ', ' ')`. -/
theorem C01_fmt_noquote (s : List Char) (h : ∀ c ∈ s, c ≠ '"' ∧ c ≠ '\'') :
    collapseOutside s = collapse s := by
  have := collapseOutsideAux_prefix s h 1 [] []
  simp only [List.append_nil] at this
  unfold collapseOutside
  rw [Nat.add_comm, this]
  simp [collapseOutsideAux]

/-- **C01_fmt_quoted**: the first quoted piece `q body q` of a selector text is printed exactly as written, double blanks
    included (`a[t="a  b"]` stays); what precedes it is collapsed, what follows is treated in the same way. -/
theorem C01_fmt_quoted (pre body post : List Char) (q : Char) (hq : q = '"' ∨ q = '\'')
    (hpre : ∀ c ∈ pre, c ≠ '"' ∧ c ≠ '\'') (hbody : q ∉ body) :
    collapseOutside (pre ++ q :: body ++ q :: post)
      = collapse pre ++ q :: body ++ q :: collapseOutside post := by
  unfold collapseOutside
  have e1 : pre ++ q :: body ++ q :: post = pre ++ (q :: (body ++ q :: post)) := by simp
  have e2 : (pre ++ q :: body ++ q :: post).length + 1
      = ((body.length + post.length + 2) + 1) + pre.length := by
    simp only [List.length_append, List.length_cons]; omega
  rw [e2, e1, collapseOutsideAux_prefix pre hpre]
  have hqb : (q == '"' || q == '\'') = true := by
    rcases hq with rfl | rfl <;> rfl
  obtain ⟨ht, hd⟩ := List.span_stop (p := (· != q)) (r := post)
    (fun c hc => bne_iff_ne.mpr fun e => hbody (e ▸ hc)) (bne_self_eq_false q)
  simp only [collapseOutsideAux, hqb, if_true, ht, hd]
  rw [collapseOutsideAux_fuel (body.length + post.length + 2) (post.length + 1) [] post
    (by omega) (by omega)]
  simp

example : String.ofList (fmt " ".toList "\n".toList
    [["a".toList, "?>?".toList, "b[t=\"x  ?y?\"]".toList, " ".toList],
     ["c".toList, "  ".toList, "d".toList]]) = "a > b[t=\"x  ?y?\"],\nc d" := by decide +kernel

example : String.ofList (fmt [] [] [["a".toList, "?>?".toList, "b[t=\"x  ?y?\"]".toList]])
    = "a>b[t=\"x  ?y?\"]" := by decide +kernel

example : collapse "a   b".toList = "a  b".toList := by decide +kernel

-- an attribute string holding question marks is not a mark
example : markOf "x?y?z".toList = none := by decide +kernel
example : markTok "?x?".toList = "?x?".toList := by decide +kernel

end Lessm.IdentFmt
