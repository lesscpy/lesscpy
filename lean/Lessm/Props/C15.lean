/-
  C15  Structurally broken input is never compiled silently (the part proved here):
       no token stream whose braces — or parentheses, interpolated-string delimiters, escape
       delimiters — are unbalanced is a sentence of the grammar the code actually runs; hence the
       validating LR driver never accepts it, whatever the tables. An open block or string at end of
       input, a stray `}`, a missing `{`, an unclosed `(` all make `balanced` false.

       The grammar (`Gen.prods`) and the weight certificates (`Gen.…Tw/Nw/Low`) are regenerated from
       the working tree on every run; the certificates are untrusted and re-checked here by `decide +kernel`.

       The grammar-independent theorems audited with C15 (derivations, weights, the soundness
       `run_sound` of the driver) stand in Lessm/Lemmas/CfgLemmas.lean.
-/
import Lessm.Lemmas.CfgLemmas
import Lessm.Gen.Grammar
import Lessm.Gen.Lalr

namespace Lessm.LR
open Lessm.Cfg

/-- **C15_sound**: whatever the tables, if the validating driver accepts `w` then `w` is a sentence of
    the grammar -/
theorem C15_sound (prods : List Rule) (action goto : Table) (eof start : Nat) (w : List Nat)
    (h : recognise prods action goto eof start w = .accept) :
    Derives ⟨prods⟩ (.nt start) w := by
  unfold recognise at h
  exact run_sound prods action goto eof start w _ _ _ _ h ⟨[], DerivesL.nil, rfl⟩

/-- total-weight part alone, from the weight certificate alone -/
theorem weight_zero_of_cert {prods : List Rule} {twL nwL : List (Nat × Int)} {start : Nat}
    (hc : consistentB prods twL nwL = true) (hn : look nwL start = 0)
    (w : List Nat) (h : Derives ⟨prods⟩ (.nt start) w) : sumT (look twL) w = 0 :=
  ((derives_weight _ _ _ (consistent_of_B hc)).1 _ _ h).trans hn

/-- a certificate accepted by the two executable checks, with weight and bound `0` at the start
    symbol, makes every sentence balanced: total weight zero and no prefix negative -/
theorem balanced_of_cert {prods : List Rule} {twL nwL lowL : List (Nat × Int)} {start : Nat}
    (hcert : consistentB prods twL nwL = true ∧ lowOkB prods twL nwL lowL = true
      ∧ look nwL start = 0 ∧ look lowL start = 0)
    (w : List Nat) (h : Derives ⟨prods⟩ (.nt start) w) :
    sumT (look twL) w = 0 ∧ ∀ p, p <+: w → 0 ≤ sumT (look twL) p := by
  obtain ⟨hc, hl, hn, hlo⟩ := hcert
  refine ⟨weight_zero_of_cert hc hn w h, fun p hp => ?_⟩
  have := (derives_prefix _ _ _ _ (consistent_of_B hc) (lowOk_of_B hl)).1 _ _ h p hp
  rwa [lowSym, hlo] at this

theorem reject_of_cert {prods : List Rule} {twL nwL lowL : List (Nat × Int)} {start : Nat}
    (hcert : consistentB prods twL nwL = true ∧ lowOkB prods twL nwL lowL = true
      ∧ look nwL start = 0 ∧ look lowL start = 0)
    (action goto : Table) (eof : Nat) {w : List Nat} (h : balanced (look twL) w = false) :
    recognise prods action goto eof start w ≠ .accept := fun hacc =>
  Bool.false_ne_true (h.symm.trans
    ((balanced_iff _ _).mpr (balanced_of_cert hcert w (C15_sound _ _ _ _ _ _ hacc))))

/-- **C15_cert_brace**: the regenerated brace certificate passes both checks on the regenerated
    grammar, and gives the start symbol weight `0` and prefix bound `0` -/
theorem C15_cert_brace :
    consistentB Gen.prods Gen.braceTw Gen.braceNw = true
    ∧ lowOkB Gen.prods Gen.braceTw Gen.braceNw Gen.braceLow = true
    ∧ look Gen.braceNw Gen.startNt = 0 ∧ look Gen.braceLow Gen.startNt = 0 := by decide +kernel

/-- **C15_balanced_brace**: every sentence of the grammar has as many `{` as `}` and no prefix closes
    more than it opened -/
theorem C15_balanced_brace (w : List Nat) (h : Derives Gen.grammar (.nt Gen.startNt) w) :
    sumT (look Gen.braceTw) w = 0 ∧ ∀ p, p <+: w → 0 ≤ sumT (look Gen.braceTw) p :=
  balanced_of_cert C15_cert_brace w h

/-- **C15_sentence_balanced_brace**: the same as a verdict of the executable check `balanced`, which `C15_reject` and the
    theorems on text (Props/C15Text) use -/
theorem C15_sentence_balanced_brace {w : List Nat} (h : Derives Gen.grammar (.nt Gen.startNt) w) :
    balanced (look Gen.braceTw) w = true :=
  (balanced_iff _ _).mpr (C15_balanced_brace w h)

/-- **C15_reject_brace**: a token stream with unbalanced braces is never accepted, whatever the tables -/
theorem C15_reject_brace (action goto : Table) (w : List Nat)
    (h : balanced (look Gen.braceTw) w = false) :
    recognise Gen.prods action goto 0 Gen.startNt w ≠ .accept :=
  reject_of_cert C15_cert_brace action goto 0 h

/-- **C15_cert_paren**, **C15_balanced_paren**, **C15_sentence_balanced_paren**: the same three for parentheses: `(`
    (`t_popen`) and the `%(` of a format call (`less_open_format`) open, `)` (`t_pclose`) closes -/
theorem C15_cert_paren :
    consistentB Gen.prods Gen.parenTw Gen.parenNw = true
    ∧ lowOkB Gen.prods Gen.parenTw Gen.parenNw Gen.parenLow = true
    ∧ look Gen.parenNw Gen.startNt = 0 ∧ look Gen.parenLow Gen.startNt = 0 := by decide +kernel

theorem C15_balanced_paren (w : List Nat) (h : Derives Gen.grammar (.nt Gen.startNt) w) :
    sumT (look Gen.parenTw) w = 0 ∧ ∀ p, p <+: w → 0 ≤ sumT (look Gen.parenTw) p :=
  balanced_of_cert C15_cert_paren w h

theorem C15_sentence_balanced_paren {w : List Nat} (h : Derives Gen.grammar (.nt Gen.startNt) w) :
    balanced (look Gen.parenTw) w = true :=
  (balanced_iff _ _).mpr (C15_balanced_paren w h)

/-- **C15_reject_paren**: a token stream with unbalanced parentheses is never accepted -/
theorem C15_reject_paren (action goto : Table) (w : List Nat)
    (h : balanced (look Gen.parenTw) w = false) :
    recognise Gen.prods action goto 0 Gen.startNt w ≠ .accept :=
  reject_of_cert C15_cert_paren action goto 0 h

/-- **C15_cert_istr**, **C15_balanced_istr**, **C15_sentence_balanced_istr**: the same three for the quotes of a string
    with interpolation (`"…@{v}…"`): `t_isopen` opens, `t_isclose` closes -/
theorem C15_cert_istr :
    consistentB Gen.prods Gen.istrTw Gen.istrNw = true
    ∧ lowOkB Gen.prods Gen.istrTw Gen.istrNw Gen.istrLow = true
    ∧ look Gen.istrNw Gen.startNt = 0 ∧ look Gen.istrLow Gen.startNt = 0 := by decide +kernel

theorem C15_balanced_istr (w : List Nat) (h : Derives Gen.grammar (.nt Gen.startNt) w) :
    sumT (look Gen.istrTw) w = 0 ∧ ∀ p, p <+: w → 0 ≤ sumT (look Gen.istrTw) p :=
  balanced_of_cert C15_cert_istr w h

theorem C15_sentence_balanced_istr {w : List Nat} (h : Derives Gen.grammar (.nt Gen.startNt) w) :
    balanced (look Gen.istrTw) w = true :=
  (balanced_iff _ _).mpr (C15_balanced_istr w h)

/-- **C15_reject_istr**: a token stream with an unclosed (or unopened) interpolated string is never
    accepted -/
theorem C15_reject_istr (action goto : Table) (w : List Nat)
    (h : balanced (look Gen.istrTw) w = false) :
    recognise Gen.prods action goto 0 Gen.startNt w ≠ .accept :=
  reject_of_cert C15_cert_istr action goto 0 h

/-- **C15_cert_estr**, **C15_balanced_estr**, **C15_sentence_balanced_estr**: the same three for escapes (`~"…"`, `~'…'`):
    `t_eopen` opens, `t_eclose` closes -/
theorem C15_cert_estr :
    consistentB Gen.prods Gen.estrTw Gen.estrNw = true
    ∧ lowOkB Gen.prods Gen.estrTw Gen.estrNw Gen.estrLow = true
    ∧ look Gen.estrNw Gen.startNt = 0 ∧ look Gen.estrLow Gen.startNt = 0 := by decide +kernel

theorem C15_balanced_estr (w : List Nat) (h : Derives Gen.grammar (.nt Gen.startNt) w) :
    sumT (look Gen.estrTw) w = 0 ∧ ∀ p, p <+: w → 0 ≤ sumT (look Gen.estrTw) p :=
  balanced_of_cert C15_cert_estr w h

theorem C15_sentence_balanced_estr {w : List Nat} (h : Derives Gen.grammar (.nt Gen.startNt) w) :
    balanced (look Gen.estrTw) w = true :=
  (balanced_iff _ _).mpr (C15_balanced_estr w h)

/-- **C15_reject_estr**: a token stream with an unclosed (or unopened) escape is never accepted -/
theorem C15_reject_estr (action goto : Table) (w : List Nat)
    (h : balanced (look Gen.estrTw) w = false) :
    recognise Gen.prods action goto 0 Gen.startNt w ≠ .accept :=
  reject_of_cert C15_cert_estr action goto 0 h

/-- **C15_reject**: all four families at once -/
theorem C15_reject (action goto : Table) (w : List Nat)
    (h : (balanced (look Gen.braceTw) w && balanced (look Gen.parenTw) w
          && balanced (look Gen.istrTw) w && balanced (look Gen.estrTw) w) = false) :
    recognise Gen.prods action goto 0 Gen.startNt w ≠ .accept := by
  intro hacc
  have hd := C15_sound _ _ _ _ _ _ hacc
  rw [C15_sentence_balanced_brace hd, C15_sentence_balanced_paren hd,
    C15_sentence_balanced_istr hd, C15_sentence_balanced_estr hd] at h
  cases h

def tok (name : String) : Nat := Gen.terminals.idxOf name

/-- `.a{color:red;}` -/
def okBlock : List Nat :=
  [tok "css_class", tok "t_bopen", tok "css_property", tok "t_colon", tok "css_ident",
   tok "t_semicolon", tok "t_bclose"]

/-- `.a{color:red;`  — block left open at end of input -/
def openBlock : List Nat :=
  [tok "css_class", tok "t_bopen", tok "css_property", tok "t_colon", tok "css_ident",
   tok "t_semicolon"]

/-- `.a{color:red;}}` — stray closing brace -/
def strayClose : List Nat := okBlock ++ [tok "t_bclose"]

/-- `.a color:red;}` — missing opening brace -/
def missingOpen : List Nat :=
  [tok "css_class", tok "css_property", tok "t_colon", tok "css_ident", tok "t_semicolon",
   tok "t_bclose"]

/-- `.a{color:f(red;}` — unclosed parenthesis -/
def openParen : List Nat :=
  [tok "css_class", tok "t_bopen", tok "css_property", tok "t_colon", tok "css_ident",
   tok "t_popen", tok "css_ident", tok "t_semicolon", tok "t_bclose"]

/-- `.a{color:"x@{v};}` — interpolated string left open -/
def openIstr : List Nat :=
  [tok "css_class", tok "t_bopen", tok "css_property", tok "t_colon", tok "t_isopen",
   tok "css_ident", tok "less_variable", tok "t_semicolon", tok "t_bclose"]

/-- `.a{color:~"x;}` — escape left open -/
def openEstr : List Nat :=
  [tok "css_class", tok "t_bopen", tok "css_property", tok "t_colon", tok "t_eopen",
   tok "css_ident", tok "t_semicolon", tok "t_bclose"]

/-- the verdicts of `balanced` on the streams above, evaluated in one go (the kernel then numbers each
    token name once instead of once per stream) -/
theorem stream_verdicts :
    balanced (look Gen.braceTw) okBlock = true
    ∧ balanced (look Gen.braceTw) openBlock = false
    ∧ balanced (look Gen.braceTw) strayClose = false
    ∧ balanced (look Gen.braceTw) missingOpen = false
    ∧ balanced (look Gen.parenTw) openParen = false
    ∧ balanced (look Gen.istrTw) openIstr = false
    ∧ balanced (look Gen.estrTw) openEstr = false := by decide +kernel

example : balanced (look Gen.braceTw) okBlock = true := stream_verdicts.1
example : balanced (look Gen.braceTw) openBlock = false := stream_verdicts.2.1
example : balanced (look Gen.braceTw) strayClose = false := stream_verdicts.2.2.1
example : balanced (look Gen.braceTw) missingOpen = false := stream_verdicts.2.2.2.1
example : balanced (look Gen.parenTw) openParen = false := stream_verdicts.2.2.2.2.1
example : balanced (look Gen.istrTw) openIstr = false := stream_verdicts.2.2.2.2.2.1
example : balanced (look Gen.estrTw) openEstr = false := stream_verdicts.2.2.2.2.2.2

/-- whatever tables are plugged in, none of the broken streams is accepted -/
example (action goto : Table) :
    recognise Gen.prods action goto 0 Gen.startNt openBlock ≠ .accept
    ∧ recognise Gen.prods action goto 0 Gen.startNt strayClose ≠ .accept
    ∧ recognise Gen.prods action goto 0 Gen.startNt missingOpen ≠ .accept
    ∧ recognise Gen.prods action goto 0 Gen.startNt openParen ≠ .accept
    ∧ recognise Gen.prods action goto 0 Gen.startNt openIstr ≠ .accept
    ∧ recognise Gen.prods action goto 0 Gen.startNt openEstr ≠ .accept :=
  have ⟨_, h1, h2, h3, h4, h5, h6⟩ := stream_verdicts
  ⟨C15_reject_brace _ _ _ h1, C15_reject_brace _ _ _ h2, C15_reject_brace _ _ _ h3,
   C15_reject_paren _ _ _ h4, C15_reject_istr _ _ _ h5, C15_reject_estr _ _ _ h6⟩

/-! ### the driver is not vacuous

  `LR.decode` goes through `String.splitOn`/`String.toNat?`, which the kernel does not reduce in this
  Lean version, and a list-based re-decoding of the 50 kB of regenerated tables did not finish under
  `decide +kernel` within ten minutes; so acceptance/rejection with the REAL tables is exercised by the
  test harness (`#eval`: `okBlock` ↦ `accept`, `openBlock` ↦ `error 6`, `strayClose` ↦ `error 7`,
  `missingOpen` ↦ `error 1`, `openParen` ↦ `error 7`), not stated here. A hand-made table for the
  grammar `S → a` shows the driver itself accepting and rejecting. -/

def toyProds : List Rule := [⟨0, [.t 1]⟩]
def toyAction : Table := [(0, [(1, 1)]), (1, [(0, -1)]), (2, [(0, 0)])]
def toyGoto : Table := [(0, [(0, 2)])]

example : recognise toyProds toyAction toyGoto 0 0 [1] = .accept := by decide +kernel
example : recognise toyProds toyAction toyGoto 0 0 [1, 1] = .error 1 := by decide +kernel
example : recognise toyProds toyAction toyGoto 0 0 [] = .error 0 := by decide +kernel
/-- wrong tables (reduce by `S → a` on an empty stack) are caught by the validation: `stuck` -/
example : recognise toyProds [(0, [(0, -1)])] toyGoto 0 0 [] = .stuck := by decide +kernel

end Lessm.LR
