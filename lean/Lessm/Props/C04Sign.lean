/-
  C04 (sign of a negated variable): properties of `foldSigns` (model of `utility.fold_signs`).
-/
import Lessm.Model.Sign

namespace Lessm.Sign

/-- nothing left to fold: no two adjacent signs, no sign directly in front of a negative number -/
def Clean : List Tok → Bool
  | .sign :: .sign :: _ => false
  | .sign :: .txt s :: r => !isNegNum s && Clean (.txt s :: r)
  | _ :: r => Clean r
  | [] => true

/-- `a` directly in front of `b` is something `fold_signs` would fold -/
def bad (a b : Tok) : Bool :=
  match a, b with
  | .sign, .sign => true
  | .sign, .txt s => isNegNum s
  | _, _ => false

theorem bad_txt (u : String) (b : Tok) : bad (.txt u) b = false := by
  cases b <;> rfl

theorem Clean_nil : Clean [] = true := rfl

theorem Clean_single (a : Tok) : Clean [a] = true := by
  cases a <;> rfl

theorem Clean_cons_cons (a b : Tok) (r : List Tok) :
    Clean (a :: b :: r) = (!bad a b && Clean (b :: r)) := by
  cases a <;> cases b <;> simp [Clean, bad]

/-- `Clean_cons_cons` from the other end -/
theorem Clean_concat (l : List Tok) (a : Tok) :
    Clean (l ++ [a]) = (l.getLast?.all (fun b => !bad b a) && Clean l) := by
  induction l with
  | nil => exact Clean_single a
  | cons x l ih =>
    cases l with
    | nil => rw [List.cons_append, List.nil_append, Clean_cons_cons, Clean_single, Clean_single]; rfl
    | cons y l =>
      rw [List.cons_append, List.cons_append, Clean_cons_cons, Clean_cons_cons x y, Bool.and_left_comm,
        List.getLast?_cons_cons]
      exact congrArg _ ih

/-- the accumulator of `foldSigns` is the output reversed: read in order it is clean when each of its elements
may follow the next -/
theorem Clean_reverse_cons (a : Tok) (r : List Tok) :
    Clean (a :: r).reverse = (r.head?.all (fun b => !bad b a) && Clean r.reverse) := by
  rw [List.reverse_cons, Clean_concat, List.getLast?_reverse]

theorem stepFold_nil (t : Tok) : stepFold [] t = [t] := by cases t <;> rfl

theorem stepFold_txt (u : String) (rest : List Tok) (t : Tok) :
    stepFold (.txt u :: rest) t = t :: .txt u :: rest := by cases t <;> rfl

theorem stepFold_sign_sign (rest : List Tok) : stepFold (.sign :: rest) .sign = rest := rfl

theorem stepFold_sign_txt (rest : List Tok) (s : String) :
    stepFold (.sign :: rest) (.txt s)
      = if isNegNum s then .txt (dropSign s) :: rest else .txt s :: .sign :: rest := rfl

theorem foldSigns_eq (ts : List Tok) : foldSigns ts = (ts.foldl stepFold []).reverse := rfl

theorem stepFold_of_not_bad (acc : List Tok) (t : Tok) (h : ∀ a ∈ acc.head?, bad a t = false) :
    stepFold acc t = t :: acc := by
  rcases acc with _ | ⟨_ | u, rest⟩
  · exact stepFold_nil t
  · cases t with
    | sign => cases h .sign rfl
    | txt s => exact (stepFold_sign_txt rest s).trans (if_neg (Bool.eq_false_iff.mp (h .sign rfl)))
  · exact stepFold_txt u rest t

theorem step_clean (acc : List Tok) (t : Tok) (h : Clean acc.reverse = true) :
    Clean (stepFold acc t).reverse = true := by
  rcases acc with _ | ⟨_ | u, rest⟩
  · rw [stepFold_nil]; exact Clean_single t
  · rw [Clean_reverse_cons, Bool.and_eq_true] at h
    cases t with
    | sign => rw [stepFold_sign_sign]; exact h.2
    | txt s =>
      rw [stepFold_sign_txt]
      split
      · -- a text replaces the sign; what stood before the sign is no sign (`h.1`), and that may stand before a text
        rw [Clean_reverse_cons, h.2, Bool.and_true]
        rcases rest with _ | ⟨_ | v, rest⟩
        · rfl
        · exact absurd h.1 Bool.false_ne_true
        · rfl
      · next hs => rw [Clean_reverse_cons, Clean_reverse_cons, h.1, h.2]; simp [bad, hs]
  · rw [stepFold_txt, Clean_reverse_cons, h, Bool.and_true]
    exact congrArg (!·) (bad_txt u t)

theorem foldl_clean (ts : List Tok) (acc : List Tok) (h : Clean acc.reverse = true) :
    Clean (ts.foldl stepFold acc).reverse = true := by
  induction ts generalizing acc with
  | nil => exact h
  | cons t ts ih => exact ih _ (step_clean acc t h)

/-- Clean input is copied; of the accumulator only the head can interfere. -/
theorem foldl_fixed (ts acc : List Tok) (h : Clean (acc.head?.toList ++ ts) = true) :
    ts.foldl stepFold acc = ts.reverse ++ acc := by
  induction ts generalizing acc with
  | nil => rfl
  | cons t ts ih =>
    have ⟨hb, hc⟩ : (∀ a ∈ acc.head?, bad a t = false) ∧ Clean (t :: ts) = true := by
      rcases acc with _ | ⟨a, _⟩
      · exact ⟨nofun, h⟩
      · change Clean (a :: t :: ts) = true at h
        rw [Clean_cons_cons, Bool.and_eq_true, Bool.not_eq_true'] at h
        exact ⟨fun _ e => Option.some.inj e ▸ h.1, h.2⟩
    rw [List.foldl_cons, stepFold_of_not_bad acc t hb, ih (t :: acc) hc, List.reverse_cons, List.append_assoc]
    rfl

/-! A tail of the accumulator that does not start with a sign is inert. -/

theorem stepFold_append (a b : List Tok) (t : Tok) (hb : b.head? ≠ some .sign) :
    stepFold (a ++ b) t = stepFold a t ++ b := by
  rcases a with _ | ⟨_ | u, a⟩
  · rw [List.nil_append, stepFold_nil]
    refine stepFold_of_not_bad b t fun x hx => ?_
    cases x with
    | sign => exact absurd hx hb
    | txt u => exact bad_txt u t
  · cases t with
    | sign => rfl
    | txt s => rw [List.cons_append, stepFold_sign_txt, stepFold_sign_txt]; split <;> rfl
  · rw [List.cons_append, stepFold_txt, stepFold_txt]; rfl

theorem foldl_append_inert (ts : List Tok) (a b : List Tok) (hb : b.head? ≠ some .sign) :
    ts.foldl stepFold (a ++ b) = ts.foldl stepFold a ++ b := by
  induction ts generalizing a with
  | nil => rfl
  | cons t ts ih => rw [List.foldl_cons, List.foldl_cons, stepFold_append a b t hb, ih]

theorem succ_odd (n : Nat) : (n + 1) % 2 = 1 ↔ ¬ n % 2 = 1 := by
  rw [Nat.add_mod]
  rcases Nat.mod_two_eq_zero_or_one n with h | h <;> rw [h] <;> decide

theorem foldl_signs (n : Nat) :
    (List.replicate n Tok.sign).foldl stepFold [] = if n % 2 = 1 then [.sign] else [] := by
  induction n with
  | zero => rfl
  | succ n ih =>
    rw [List.replicate_succ', List.foldl_append, ih]
    by_cases h : n % 2 = 1 <;>
      simp only [succ_odd, h, not_true_eq_false, not_false_eq_true, if_true, if_false] <;> rfl

theorem reading_signs (n : Nat) (s : String) :
    reading (List.replicate n .sign ++ [.txt s]) = some (decide (n % 2 = 1), s) := by
  induction n with
  | zero => rfl
  | succ n ih =>
    rw [List.replicate_succ, List.cons_append]
    show (reading (List.replicate n .sign ++ [.txt s])).map (fun p => (!p.1, p.2)) = _
    simp only [ih, Option.map_some, succ_odd, decide_not]

theorem reading_shape (ts : List Tok) (p : Bool × String) (h : reading ts = some p) :
    ∃ n s, ts = List.replicate n .sign ++ [.txt s] := by
  induction ts generalizing p with
  | nil => simp [reading] at h
  | cons t ts ih =>
    cases t with
    | sign =>
      have h' : (reading ts).map (fun p => (!p.1, p.2)) = some p := h
      cases hr : reading ts with
      | none => rw [hr] at h'; cases h'
      | some q =>
        obtain ⟨n, s, e⟩ := ih q hr
        exact ⟨n + 1, s, by rw [e, List.replicate_succ, List.cons_append]⟩
    | txt s =>
      cases ts with
      | nil => exact ⟨0, s, rfl⟩
      | cons x ts => simp [reading] at h

theorem isNegNum_dropSign (s : String) (h : isNegNum s = true) : isNegNum (dropSign s) = false := by
  -- `s` begins `-` then a digit or `.`: that character now comes first, where `isNegNum` wants another `-`
  have hd : (dropSign s).toList = s.toList.drop 1 := String.toList_ofList
  unfold isNegNum at h ⊢
  rw [hd]
  generalize s.toList = l at h
  have hminus : isDigit '-' = false := by decide
  split at h
  · rfl
  · next d r _ =>
    rw [List.drop_succ_cons, List.drop_zero]
    split
    · next heq => rw [(List.cons.inj heq).1, hminus] at h; cases h
    · next heq => rw [(List.cons.inj heq).1, hminus] at h; cases h
    · rfl
  · cases h

/-- the output never contains a double sign (no `--3px`) or a sign in front of a negative number -/
theorem C04_sign_clean (ts : List Tok) : Clean (foldSigns ts) = true :=
  foldl_clean ts [] Clean_nil

/-- a list with nothing to fold is unchanged -/
theorem C04_sign_fixed (ts : List Tok) (h : Clean ts = true) : foldSigns ts = ts := by
  rw [foldSigns_eq, foldl_fixed ts [] h]
  simp

theorem C04_sign_idem (ts : List Tok) : foldSigns (foldSigns ts) = foldSigns ts :=
  C04_sign_fixed _ (C04_sign_clean ts)

/-- a list without a sign token is untouched -/
theorem C04_sign_conservative (ts : List Tok) (h : ∀ t ∈ ts, t ≠ .sign) : foldSigns ts = ts := by
  apply C04_sign_fixed
  induction ts with
  | nil => exact Clean_nil
  | cons a r ih =>
    have hr : Clean r = true := ih (fun t ht => h t (List.mem_cons_of_mem _ ht))
    cases a with
    | sign => exact absurd rfl (h .sign (List.mem_cons_self))
    | txt u =>
      cases r with
      | nil => exact Clean_single _
      | cons b r => rw [Clean_cons_cons, bad_txt, hr]; rfl

/-- n-fold negation of a value: parity decides, a negative number loses its sign instead of gaining one -/
theorem C04_sign_value (n : Nat) (s : String) :
    foldSigns (List.replicate n .sign ++ [.txt s])
      = if isNegNum s then (if n % 2 = 1 then [.txt (dropSign s)] else [.txt s])
        else (if n % 2 = 1 then [.sign, .txt s] else [.txt s]) := by
  rw [foldSigns_eq, List.foldl_append, foldl_signs]
  by_cases hn : n % 2 = 1 <;> by_cases hs : isNegNum s = true <;>
    simp [hn, hs, stepFold_sign_txt, stepFold_nil]

/-- folding preserves the denoted signed value -/
theorem C04_sign_reading (ts : List Tok) (p : Bool × String) (h : reading ts = some p) :
    (reading (foldSigns ts)).map normal = some (normal p) := by
  obtain ⟨n, s, e⟩ := reading_shape ts p h
  subst e
  rw [reading_signs] at h
  have hp : p = (decide (n % 2 = 1), s) := (Option.some.inj h).symm
  subst hp
  rw [C04_sign_value]
  by_cases hn : n % 2 = 1 <;> by_cases hs : isNegNum s = true <;>
    simp [hn, hs, isNegNum_dropSign s, reading, normal]

/-- folding is local: a clean prefix that does not end in a sign is copied and does not influence what follows -/
theorem C04_sign_local (pre : List Tok) (ts : List Tok) (h : Clean pre = true)
    (hl : pre.getLast? ≠ some .sign) :
    foldSigns (pre ++ ts) = pre ++ foldSigns ts := by
  rw [foldSigns_eq, foldSigns_eq, List.foldl_append,
    foldl_fixed pre [] h, List.append_nil]
  have hb : pre.reverse.head? ≠ some .sign := by rw [List.head?_reverse]; exact hl
  have := foldl_append_inert ts [] pre.reverse hb
  rw [List.nil_append] at this
  rw [this, List.reverse_append, List.reverse_reverse]

example : foldSigns [.sign, .txt "-3px"] = [.txt "3px"] := by decide +kernel
example : foldSigns [.sign, .sign, .sign, .txt "-.5em"] = [.txt ".5em"] := by decide +kernel
example : foldSigns [.txt "1px", .txt "-", .sign, .txt "-3"] = [.txt "1px", .txt "-", .txt "3"] := by decide +kernel
example : foldSigns [.sign, .txt "-moz-x"] = [.sign, .txt "-moz-x"] := by decide +kernel
example : Clean [.sign, .txt "-3"] = false := by decide +kernel

end Lessm.Sign
