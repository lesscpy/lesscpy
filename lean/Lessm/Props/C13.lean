/-
  C13  Compilation is a pure function of source text and options: theorems about Lessm.Pure.

  The model makes the sharing explicit: the only thing a compilation reads that it did not create itself is the
  package table module (`cfg.pkg`); the only thing it leaves behind is the table file in the temporary directory.
  The theorems say that under the hypothesis the harness checks on every run (the package table module is absent, or
  holds the tables of this grammar) every output of every schedule of every number of processes, with any crash points
  and any initial content of the table file, is `run gen src opt`.  That the real code has exactly this footprint is
  checked by the correspondence run (strace of the file accesses, histories, hash seeds, concurrent processes).
-/
import Lessm.Model.Purity
namespace Lessm.Pure

/-- the hypothesis on the installation: no package table module, or one that carries this grammar's tables -/
def PkgOK (cfg : Config) : Prop := (yaccTables cfg.curVersion cfg.optimize cfg.sig cfg.gen cfg.pkg).1 = cfg.gen

theorem pkgOK_none (cfg : Config) (h : cfg.pkg = none) : PkgOK cfg := by
  unfold PkgOK; rw [h]; rfl

theorem pkgOK_same (cfg : Config) (t : Tab) (h : cfg.pkg = some t) (ht : t.tables = cfg.gen) : PkgOK cfg := by
  unfold PkgOK; rw [h]; simp only [yaccTables]; split
  · exact ht
  · rfl

/-- invariant: every parser alive holds the generated tables, every recorded output is the pure function's -/
def Inv {Out : Type} (cfg : Config) (run : Nat → String → Nat → Out) (s : Sys Out) : Prop :=
  (∀ pid t, (s.procs pid).tables = some t → t = cfg.gen) ∧
  (∀ e ∈ s.out, e.2.2.2 = run cfg.gen e.2.1 e.2.2.1)

theorem inv_step {Out : Type} (cfg : Config) (run : Nat → String → Nat → Out) (hp : PkgOK cfg)
    (s : Sys Out) (ev : Nat × Step) (h : Inv cfg run s) : Inv cfg run (exec cfg run s ev) := by
  obtain ⟨pid, st⟩ := ev
  obtain ⟨h1, h2⟩ := h
  -- replacing the entry of `pid` by one whose tables are the generated ones or the old ones
  have set : ∀ p : Proc, (∀ t, p.tables = some t → t = cfg.gen) →
      ∀ q t, (setProc s.procs pid p q).tables = some t → t = cfg.gen := by
    intro p hp' q t hq
    unfold setProc at hq
    split at hq
    · exact hp' t hq
    · exact h1 q t hq
  simp only [exec]
  cases (s.procs pid).dead
  · cases st with
    | construct => exact ⟨set _ fun t ht => (Option.some.inj ht).symm.trans hp, h2⟩
    | crash => exact ⟨set _ (h1 pid), h2⟩
    | trunc => exact ⟨h1, h2⟩
    | write c => exact ⟨h1, h2⟩
    | compile src opt =>
        cases ht : (s.procs pid).tables with
        | none => exact ⟨h1, h2⟩
        | some t =>
          refine ⟨h1, fun e he => ?_⟩
          rcases List.mem_append.1 he with he | he
          · exact h2 e he
          · rw [List.mem_singleton.1 he, h1 pid t ht]
  · exact ⟨h1, h2⟩

/-- **C13_pure**: for every number of processes, every interleaving of their steps, every crash point and every initial
    content of the table file (absent, complete, any prefix, foreign bytes), every CSS produced is the pure function
    `run gen` of its own source and options. -/
theorem C13_pure {Out : Type} (cfg : Config) (run : Nat → String → Nat → Out) (hp : PkgOK cfg)
    (tmp : Option String) (sched : List (Nat × Step)) :
    ∀ e ∈ (execAll cfg run (initSys tmp) sched).out, e.2.2.2 = run cfg.gen e.2.1 e.2.2.1 := by
  suffices key : ∀ s, Inv cfg run s → Inv cfg run (execAll cfg run s sched) from
    (key _ ⟨fun _ _ h => (by cases h), List.forall_mem_nil _⟩).2
  induction sched with
  | nil => exact fun _ h => h
  | cons ev rest ih => exact fun s h => ih _ (inv_step cfg run hp s ev h)

/-- the table file is never read: two systems that differ only in its content stay in step -/
theorem exec_tmp_irrelevant {Out : Type} (cfg : Config) (run : Nat → String → Nat → Out) (s1 s2 : Sys Out)
    (hp : s1.procs = s2.procs) (ho : s1.out = s2.out) (ev : Nat × Step) :
    (exec cfg run s1 ev).procs = (exec cfg run s2 ev).procs ∧ (exec cfg run s1 ev).out = (exec cfg run s2 ev).out := by
  obtain ⟨pid, st⟩ := ev
  obtain ⟨t1, p, out⟩ := s1
  obtain ⟨t2, _, _⟩ := s2
  cases hp; cases ho
  simp only [exec]
  cases (p pid).dead
  · cases st with
    | compile src opt => cases (p pid).tables <;> exact ⟨rfl, rfl⟩
    | _ => exact ⟨rfl, rfl⟩
  · exact ⟨rfl, rfl⟩

/-- **C13_cache**: cold, warm, truncated or foreign table file: the outputs (and their order) are the same. -/
theorem C13_cache {Out : Type} (cfg : Config) (run : Nat → String → Nat → Out) (t1 t2 : Option String)
    (sched : List (Nat × Step)) :
    (execAll cfg run (initSys t1) sched).out = (execAll cfg run (initSys t2) sched).out := by
  suffices key : ∀ s1 s2 : Sys Out, s1.procs = s2.procs → s1.out = s2.out →
      (execAll cfg run s1 sched).out = (execAll cfg run s2 sched).out from key _ _ rfl rfl
  induction sched with
  | nil => exact fun _ _ _ ho => ho
  | cons ev rest ih =>
      intro s1 s2 hp ho
      obtain ⟨h1, h2⟩ := exec_tmp_irrelevant cfg run s1 s2 hp ho ev
      exact ih _ _ h1 h2

/-- a history of one process: construct + compile for every (source, options) of the list -/
def history (pid : Nat) : List (String × Nat) → List (Nat × Step)
  | [] => []
  | (src, opt) :: r => (pid, .construct) :: (pid, .trunc) :: (pid, .write "tables") :: (pid, .compile src opt) :: history pid r

/-- **C13_history**: whatever was compiled before in the same process, successfully or not (`run` may return an error
    value), the n-th call returns `run gen` of its own arguments: the outputs of a history are the map of the pure function. -/
theorem C13_history {Out : Type} (cfg : Config) (run : Nat → String → Nat → Out) (hp : PkgOK cfg) (tmp : Option String)
    (pid : Nat) (h : List (String × Nat)) :
    (execAll cfg run (initSys tmp) (history pid h)).out = h.map (fun c => (pid, c.1, c.2, run cfg.gen c.1 c.2)) := by
  suffices key : ∀ s : Sys Out, (s.procs pid).dead = false →
      (execAll cfg run s (history pid h)).out = s.out ++ h.map (fun c => (pid, c.1, c.2, run cfg.gen c.1 c.2))
    from key (initSys tmp) rfl
  unfold PkgOK at hp
  induction h with
  | nil => intro s _; simp [history, execAll]
  | cons c r ih =>
      intro s hd
      -- one round (construct, trunc, write, compile) leaves the process alive and appends one output
      simp only [history, execAll, List.foldl_cons] at ih ⊢
      rw [ih _ (by simp [exec, setProc, hd])]
      simp [exec, setProc, hd, hp]

/-- the hypothesis is needed: a foreign package table module used blindly (optimize) changes the result -/
theorem C13_foreign_pkg_counterexample :
    ∃ (cfg : Config) (run : Nat → String → Nat → Nat), ¬ PkgOK cfg ∧
      (execAll cfg run (initSys none) [(0, .construct), (0, .compile "s" 0)]).out ≠ [(0, "s", 0, run cfg.gen "s" 0)] := by
  refine ⟨⟨1, true, 7, 100, some ⟨1, 8, 200⟩⟩, fun t _ _ => t, ?_, ?_⟩
  · unfold PkgOK; decide
  · decide

/-! non-vacuity: two processes interleaved on a truncated table file, one crashing in the middle of its write -/
example : (execAll ⟨1, true, 7, 100, none⟩ (fun t s o => (t, s, o)) (initSys (some "_tabver"))
    [(0, .construct), (1, .construct), (0, .trunc), (1, .trunc), (0, .write "ab"), (1, .write "x"), (1, .crash),
     (0, .compile "p" 1), (1, .compile "q" 0), (0, .compile "p" 1)]).out
    = [(0, "p", 1, (100, "p", 1)), (0, "p", 1, (100, "p", 1))] := by
  decide +kernel

example : PkgOK ⟨1, true, 7, 100, none⟩ := pkgOK_none _ rfl

end Lessm.Pure
