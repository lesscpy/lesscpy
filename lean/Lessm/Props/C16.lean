/-
  C16  Directory (batch) mode.

  "Directory mode writes, for each .less file, a .css (or .min.css) file whose bytes equal what
   compiling that file alone with the same options and includes returns, independent of which other
   files are in the directory and of their order. An output that is newer than its source is left
   untouched unless --force is given, a missing or older output is rewritten, --recurse mirrors
   sub-directories, --dry-run changes nothing on disk."

  Model: `Lessm/Model/Batch.lean` (`compileFiles` — the loop over one directory; `runDir` / `runSubs`
  — `ldirectory` with recursion; the compiler is the parameter `cc : bytes → bytes`; a logical
  `clock` supplies the mtime of every written file).
  Vocabulary (`Lessm/Lemmas/BatchLemmas.lean`): `LessNodup fl files` (the out-names of the `.less`
  files of a listing are pairwise distinct — implied by pairwise distinct file names, `C16_names`),
  `outFilesOf` / `outSubsOf` (files / sub-directories of the possibly missing output directory),
  `logLine`, `maxSrcMtime`, `WF` (names pairwise distinct in every directory of the tree).
  Theorems and examples here, and `expectedLog` (what stdout is to be); helper lemmas are in
  `Lessm/Lemmas/BatchLemmas.lean`, and so are `C16_names`, `C16_dry_files`, `C16_untouched` and
  `C16_file`, which the lemmas there use (their examples are here); the example directory `Ex.*` is
  described there.

  Hypotheses that are facts of every file system are explicit and decidable:
    `LessNodup fl files`, `(subs.map (·.1)).Nodup`, `WF t = true`.
-/
import Lessm.Lemmas.BatchLemmas
namespace Lessm.Batch

/-! ### (0) distinct names give distinct out-names (`C16_names`) -/

example : (Ex.files.map (·.1)).Nodup := by decide +kernel
example : LessNodup Ex.flags Ex.files := C16_names _ _ (by decide +kernel)
example : (Ex.files.filter (fun p => isLess p.1)).map (fun p => outName Ex.flags p.1)
    = ["a.css", "b.css"] := by decide +kernel
example : (Ex.files.filter (fun p => isLess p.1)).map (fun p => outName { Ex.flags with minEnding := true } p.1)
    = ["a.min.css", "b.min.css"] := by decide +kernel

/-! ### (1) `--dry-run` changes nothing on disk -/

/-- **C16_dry**: a dry run returns the output tree it was given (also "still missing" stays
    "still missing") and does not advance the clock; only stdout is produced. -/
theorem C16_dry (cc : String → String) (fl : Flags) (hd : fl.dry = true) (i o : String) (t : Tree)
    (out : Option Tree) (clock : Nat) :
    ∃ lg, runDir cc fl i o t out clock = (out, clock, lg) := by
  obtain ⟨h1, h2⟩ := (run_dry cc fl hd).1 t i o out clock
  exact ⟨(runDir cc fl i o t out clock).2.2, Prod.ext h1 (Prod.ext h2 rfl)⟩

example : Ex.flagsD.dry = true := rfl
example : runDir Ex.cc Ex.flagsD "in" "out" Ex.tree Ex.out 10
    = (Ex.out, 10, ["in/a.less -> out/a.css", "in/b.less -> out/b.css",
                    "in/sub/c.less -> out/sub/c.css"]) := by decide +kernel
example : runDir Ex.cc Ex.flagsD "in" "out" Ex.tree none 10
    = (none, 10, ["in/a.less -> out/a.css", "in/b.less -> out/b.css",
                  "in/sub/c.less -> out/sub/c.css"]) := by decide +kernel

/-- **C16_dry_subs**: the same for the loop over the sub-directories. -/
theorem C16_dry_subs (cc : String → String) (fl : Flags) (hd : fl.dry = true) (i o : String)
    (subs outSubs : List (String × Tree)) (clock : Nat) :
    ∃ lg, runSubs cc fl i o subs outSubs clock = (outSubs, clock, lg) := by
  obtain ⟨h1, h2⟩ := (run_dry cc fl hd).2 subs i o outSubs clock
  exact ⟨(runSubs cc fl i o subs outSubs clock).2.2, Prod.ext h1 (Prod.ext h2 rfl)⟩

example : runSubs Ex.cc Ex.flagsD "in" "out" Ex.subs Ex.outSubs 10
    = (Ex.outSubs, 10, ["in/sub/c.less -> out/sub/c.css"]) := by decide +kernel

-- and for the loop over the files of one directory (`C16_dry_files`)
example : (compileFiles Ex.cc Ex.flagsD "in" "out" Ex.files ⟨Ex.outFiles, 10, []⟩).outFiles
    = Ex.outFiles := by decide +kernel

/-! ### (2) the staleness law, one directory (`C16_file`) -/

/-- the plain run and the `--force` run over `Ex.files`, evaluated once for the examples below (one
    statement: the kernel then evaluates the names once for both runs) -/
theorem Ex.runs :
    ((compileFiles Ex.cc Ex.flags "in" "out" Ex.files ⟨Ex.outFiles, 10, []⟩).outFiles
        = [("a.css", ⟨"/*css*/a{}", 10⟩), ("b.css", ⟨"fresh", 7⟩), ("keep.txt", ⟨"k", 0⟩)] ∧
      (compileFiles Ex.cc Ex.flags "in" "out" Ex.files ⟨Ex.outFiles, 10, []⟩).clock = 11) ∧
    (compileFiles Ex.cc Ex.flagsF "in" "out" Ex.files ⟨Ex.outFiles, 10, []⟩).outFiles
      = [("a.css", ⟨"/*css*/a{}", 10⟩), ("b.css", ⟨"/*css*/b{}", 11⟩), ("keep.txt", ⟨"k", 0⟩)] := by
  decide +kernel

-- a.css (mtime 4) is older than a.less (mtime 5): rewritten; b.css (mtime 7) is newer than b.less
example : ("a.less", ⟨"a{}", 5⟩) ∈ Ex.files ∧ isLess "a.less" = true ∧ Ex.flags.dry = false ∧
    stale Ex.flags ⟨"a{}", 5⟩ (findFile Ex.outFiles (outName Ex.flags "a.less")) = true := by decide +kernel
example : ("b.less", ⟨"b{}", 3⟩) ∈ Ex.files ∧ isLess "b.less" = true ∧
    stale Ex.flags ⟨"b{}", 3⟩ (findFile Ex.outFiles (outName Ex.flags "b.less")) = false := by decide +kernel
example : (compileFiles Ex.cc Ex.flags "in" "out" Ex.files ⟨Ex.outFiles, 10, []⟩).outFiles
    = [("a.css", ⟨"/*css*/a{}", 10⟩), ("b.css", ⟨"fresh", 7⟩), ("keep.txt", ⟨"k", 0⟩)] := Ex.runs.1.1
example : (compileFiles Ex.cc Ex.flags "in" "out" Ex.files ⟨Ex.outFiles, 10, []⟩).clock = 11 :=
  Ex.runs.1.2

/-- **C16_force**: with `--force` (and no `--dry-run`) every `.less` file is rewritten. -/
theorem C16_force (cc : String → String) (fl : Flags) (i o : String) (files : List (String × File))
    (out0 : List (String × File)) (clock : Nat) (lg : List String)
    (hnd : LessNodup fl files)
    (name : String) (src : File) (hmem : (name, src) ∈ files) (hl : isLess name = true)
    (hf : fl.force = true) (hd : fl.dry = false) :
    ∃ t, clock ≤ t ∧ t < (compileFiles cc fl i o files ⟨out0, clock, lg⟩).clock ∧
      findFile (compileFiles cc fl i o files ⟨out0, clock, lg⟩).outFiles (outName fl name)
        = some ⟨cc src.bytes, t⟩ :=
  (C16_file cc fl i o files out0 clock lg hnd name src hmem hl).2 ⟨hd, by simp [stale, hf]⟩

example : Ex.flagsF.force = true ∧ Ex.flagsF.dry = false ∧ LessNodup Ex.flagsF Ex.files := by decide +kernel
example : (compileFiles Ex.cc Ex.flagsF "in" "out" Ex.files ⟨Ex.outFiles, 10, []⟩).outFiles
    = [("a.css", ⟨"/*css*/a{}", 10⟩), ("b.css", ⟨"/*css*/b{}", 11⟩), ("keep.txt", ⟨"k", 0⟩)] :=
  Ex.runs.2

/-- **C16_missing_or_older**: without `--dry-run`, a `.less` file whose output is missing or older
    than the source is rewritten. -/
theorem C16_missing_or_older (cc : String → String) (fl : Flags) (i o : String)
    (files : List (String × File)) (out0 : List (String × File)) (clock : Nat) (lg : List String)
    (hnd : LessNodup fl files)
    (name : String) (src : File) (hmem : (name, src) ∈ files) (hl : isLess name = true)
    (hd : fl.dry = false)
    (h : findFile out0 (outName fl name) = none ∨
         ∃ f, findFile out0 (outName fl name) = some f ∧ f.mtime < src.mtime) :
    ∃ t, clock ≤ t ∧ t < (compileFiles cc fl i o files ⟨out0, clock, lg⟩).clock ∧
      findFile (compileFiles cc fl i o files ⟨out0, clock, lg⟩).outFiles (outName fl name)
        = some ⟨cc src.bytes, t⟩ := by
  refine (C16_file cc fl i o files out0 clock lg hnd name src hmem hl).2 ⟨hd, ?_⟩
  rcases h with h | ⟨f, h, hlt⟩
  · simp [stale, h]
  · simp [stale, h, hlt]

-- older: a.css; missing: every output when the output directory is empty
example : ∃ f, findFile Ex.outFiles (outName Ex.flags "a.less") = some f ∧ f.mtime < 5 :=
  ⟨⟨"old", 4⟩, by decide +kernel⟩
example : findFile [] (outName Ex.flags "b.less") = none := by decide +kernel
example : (compileFiles Ex.cc Ex.flags "in" "out" Ex.files ⟨[], 10, []⟩).outFiles
    = [("a.css", ⟨"/*css*/a{}", 10⟩), ("b.css", ⟨"/*css*/b{}", 11⟩)] := by decide +kernel

/-- **C16_newer_untouched**: without `--force`, an output that exists and is not older than its
    source is left untouched (bytes and mtime). -/
theorem C16_newer_untouched (cc : String → String) (fl : Flags) (i o : String)
    (files : List (String × File)) (out0 : List (String × File)) (clock : Nat) (lg : List String)
    (hnd : LessNodup fl files)
    (name : String) (src : File) (hmem : (name, src) ∈ files) (hl : isLess name = true)
    (hf : fl.force = false) (f : File) (h : findFile out0 (outName fl name) = some f)
    (hle : src.mtime ≤ f.mtime) :
    findFile (compileFiles cc fl i o files ⟨out0, clock, lg⟩).outFiles (outName fl name) = some f := by
  rw [← h]
  refine (C16_file cc fl i o files out0 clock lg hnd name src hmem hl).1 (Or.inr ?_)
  simpa [stale, hf, h] using hle

example : findFile Ex.outFiles (outName Ex.flags "b.less") = some ⟨"fresh", 7⟩ ∧ 3 ≤ 7 := by decide +kernel
example : findFile (compileFiles Ex.cc Ex.flags "in" "out" Ex.files ⟨Ex.outFiles, 10, []⟩).outFiles
    "b.css" = some ⟨"fresh", 7⟩ := by rw [Ex.runs.1.1]; decide +kernel

/-! ### (3) nothing else in the output directory is touched (`C16_untouched`) -/

example : ∀ p ∈ Ex.files, isLess p.1 = true → outName Ex.flagsF p.1 ≠ "keep.txt" := by decide +kernel
example : ∀ p ∈ Ex.files, isLess p.1 = true → outName Ex.flagsF p.1 ≠ "readme.css" := by decide +kernel
example : findFile (compileFiles Ex.cc Ex.flagsF "in" "out" Ex.files ⟨Ex.outFiles, 10, []⟩).outFiles
    "keep.txt" = some ⟨"k", 0⟩ := by rw [Ex.runs.2]; decide +kernel
example : findFile (compileFiles Ex.cc Ex.flagsF "in" "out" Ex.files ⟨Ex.outFiles, 10, []⟩).outFiles
    "readme.css" = none := by rw [Ex.runs.2]; decide +kernel

/-! ### (4) independence of the siblings and of the listing order -/

/-- **C16_iso**: two listings of the same directory entries in different orders (`List.Perm`)
    produce, under every name, outputs with the same bytes (present in the one iff present in the
    other). Only the mtimes — positions in the run — and the order of the stdout lines can differ;
    the two runs may even start at different clocks. -/
theorem C16_iso (cc : String → String) (fl : Flags) (i o : String)
    (files₁ files₂ : List (String × File)) (hp : files₁.Perm files₂)
    (hnd : ((files₁.filter (fun p => isLess p.1)).map (fun p => outName fl p.1)).Nodup)
    (out0 : List (String × File)) (clock₁ clock₂ : Nat) (lg₁ lg₂ : List String) (n : String) :
    (findFile (compileFiles cc fl i o files₁ ⟨out0, clock₁, lg₁⟩).outFiles n).map (·.bytes)
      = (findFile (compileFiles cc fl i o files₂ ⟨out0, clock₂, lg₂⟩).outFiles n).map (·.bytes) := by
  by_cases hex : ∃ p ∈ files₁, isLess p.1 = true ∧ outName fl p.1 = n
  · obtain ⟨⟨name, src⟩, hmem, hl, rfl⟩ := hex
    rw [compileFiles_bytes cc fl i o files₁ _ _ _ hnd name src hmem hl,
      compileFiles_bytes cc fl i o files₂ _ _ _ (LessNodup.perm hp hnd) name src (hp.subset hmem) hl]
  · have hno : ∀ p ∈ files₁, isLess p.1 = true → outName fl p.1 ≠ n :=
      fun p hp1 hl e => hex ⟨p, hp1, hl, e⟩
    rw [C16_untouched cc fl i o files₁ _ _ _ n hno,
      C16_untouched cc fl i o files₂ _ _ _ n (fun p hp2 => hno p (hp.symm.subset hp2))]

example : Ex.files.Perm Ex.filesRev := by decide +kernel
example : (compileFiles Ex.cc Ex.flagsF "in" "out" Ex.filesRev ⟨Ex.outFiles, 10, []⟩).outFiles
    = [("a.css", ⟨"/*css*/a{}", 11⟩), ("b.css", ⟨"/*css*/b{}", 10⟩), ("keep.txt", ⟨"k", 0⟩)] := by
  decide +kernel   -- compare with the example after `C16_force`: same bytes, other mtimes

/-- **C16_iso_alone**: the bytes written for a `.less` file are those of the run over that file
    alone — the other files of the directory have no influence. -/
theorem C16_iso_alone (cc : String → String) (fl : Flags) (i o : String)
    (files : List (String × File)) (hnd : LessNodup fl files)
    (out0 : List (String × File)) (clock clock' : Nat) (lg lg' : List String)
    (name : String) (src : File) (hmem : (name, src) ∈ files) (hl : isLess name = true) :
    (findFile (compileFiles cc fl i o files ⟨out0, clock, lg⟩).outFiles (outName fl name)).map (·.bytes)
      = (findFile (compileFiles cc fl i o [(name, src)] ⟨out0, clock', lg'⟩).outFiles
          (outName fl name)).map (·.bytes) := by
  rw [compileFiles_bytes cc fl i o files _ _ _ hnd name src hmem hl,
    compileFiles_bytes cc fl i o [(name, src)] _ _ _ (by simp [LessNodup, hl]) name src
      List.mem_cons_self hl]

example : findFile (compileFiles Ex.cc Ex.flagsF "in" "out" [("b.less", ⟨"b{}", 3⟩)]
    ⟨Ex.outFiles, 10, []⟩).outFiles "b.css" = some ⟨"/*css*/b{}", 10⟩ := by decide +kernel
example : findFile (compileFiles Ex.cc Ex.flagsF "in" "out" Ex.files
    ⟨Ex.outFiles, 10, []⟩).outFiles "b.css" = some ⟨"/*css*/b{}", 11⟩ := by
  rw [Ex.runs.2]; decide +kernel

/-! ### (5) stdout: one line per stale `.less` file -/

/-- the lines expected on stdout for one directory: one per stale `.less` file, in listing order,
    staleness judged against the output directory as it was *before* the run -/
def expectedLog (fl : Flags) (i o : String) (out0 : List (String × File))
    (files : List (String × File)) : List String :=
  files.filterMap (fun p =>
    if isLess p.1 && stale fl p.2 (findFile out0 (outName fl p.1))
    then some (i ++ "/" ++ p.1 ++ " -> " ++ o ++ "/" ++ outName fl p.1) else none)

/-- **C16_log**: the loop appends to stdout exactly `expectedLog`, in a dry run and in a real run
    alike (in a real run the staleness of a later file is tested against the updated directory; with
    distinct out-names that is the same as testing against the directory before the run). -/
theorem C16_log (cc : String → String) (fl : Flags) (i o : String) (files : List (String × File))
    (out0 : List (String × File)) (clock : Nat) (lg : List String)
    (hnd : ((files.filter (fun p => isLess p.1)).map (fun p => outName fl p.1)).Nodup) :
    (compileFiles cc fl i o files ⟨out0, clock, lg⟩).log = lg ++ expectedLog fl i o out0 files := by
  induction files generalizing out0 clock lg with
  | nil => simp [compileFiles_nil, expectedLog]
  | cons p r ih =>
    obtain ⟨name, src⟩ := p
    obtain ⟨hndr, hne⟩ := lessNodup_cons hnd
    -- the staleness of the later files is not changed by the step for `name`
    have hcongr : expectedLog fl i o (stepSt cc fl i o name src ⟨out0, clock, lg⟩).outFiles r
        = expectedLog fl i o out0 r := by
      apply List.filterMap_congr_mem
      intro q hq
      by_cases hql : isLess q.1 = true
      · rw [stepSt_find_ne cc fl i o name src _ (outName fl q.1) (fun h e => hne h q hq hql e.symm)]
      · simp [hql]
    rw [compileFiles_cons]
    refine ((fun s : St => ih s.outFiles s.clock s.log hndr)
      (stepSt cc fl i o name src ⟨out0, clock, lg⟩)).trans ?_
    rw [hcongr, stepSt_log, expectedLog, expectedLog, List.filterMap_cons]
    by_cases hc : (isLess name && stale fl src (findFile out0 (outName fl name))) = true <;>
      simp [hc, logLine]

example : expectedLog Ex.flags "in" "out" Ex.outFiles Ex.files = ["in/a.less -> out/a.css"] := by
  decide +kernel
example : expectedLog Ex.flagsD "in" "out" Ex.outFiles Ex.files
    = ["in/a.less -> out/a.css", "in/b.less -> out/b.css"] := by decide +kernel
example : (compileFiles Ex.cc Ex.flags "in" "out" Ex.files ⟨Ex.outFiles, 10, ["x"]⟩).log
    = ["x", "in/a.less -> out/a.css"] := by decide +kernel

/-! ### (6) `--recurse` mirrors the sub-directories -/

/-- **C16_dir_files**: the files of the directory returned by `runDir` are the result of the loop
    `compileFiles` started on the files of the given output directory — so (2)–(5) speak about every
    directory `ldirectory` visits. -/
theorem C16_dir_files (cc : String → String) (fl : Flags) (i o : String)
    (files : List (String × File)) (subs : List (String × Tree)) (out : Option Tree) (clock : Nat)
    (res : Tree) (h : (runDir cc fl i o (.mk files subs) out clock).1 = some res) :
    res.files = (compileFiles cc fl i o files ⟨outFilesOf out, clock, []⟩).outFiles := by
  simp only [runDir_eq] at h
  split at h
  · cases h; rfl
  · cases h

example : (runDir Ex.cc Ex.flags "in" "out" Ex.tree Ex.out 10).1
    = some (.mk [("a.css", ⟨"/*css*/a{}", 10⟩), ("b.css", ⟨"fresh", 7⟩), ("keep.txt", ⟨"k", 0⟩)]
        Ex.outSubs) := by decide +kernel

/-- **C16_rec**: with `--recurse` (no `--dry-run`), sub-directory names pairwise distinct: the output
    directory exists afterwards and
    * every non-hidden sub-directory `name` of the input is mirrored: the output has a sub-directory
      `name`, and it is exactly what `ldirectory` returns for `in/name → out/name`, started at some
      clock `c` of this run against the `out/name` that was there before;
    * sub-directories of the output that are hidden, or have no counterpart in the input, are
      unchanged. -/
theorem C16_rec (cc : String → String) (fl : Flags) (hrec : fl.recurse = true) (hd : fl.dry = false)
    (i o : String) (files : List (String × File)) (subs : List (String × Tree))
    (hnd : (subs.map (·.1)).Nodup) (out : Option Tree) (clock : Nat) :
    ∃ res, (runDir cc fl i o (.mk files subs) out clock).1 = some res ∧
      (∀ name t, (name, t) ∈ subs → hidden name = false →
        ∃ c t', clock ≤ c ∧ c ≤ (runDir cc fl i o (.mk files subs) out clock).2.1 ∧
          findSub res.subs name = some t' ∧
          (runDir cc fl (i ++ "/" ++ name) (o ++ "/" ++ name) t
              (findSub (outSubsOf out) name) c).1 = some t') ∧
      (∀ n, (hidden n = true ∨ n ∉ subs.map (·.1)) →
        findSub res.subs n = findSub (outSubsOf out) n) := by
  rw [runDir_eq]
  simp only [hrec, hd, if_true, Bool.not_false, Bool.or_true]
  refine ⟨_, rfl, ?_, ?_⟩
  · intro name t hmem hh
    obtain ⟨c, h1, h2, h3⟩ := runSubs_visited cc fl hd i o subs hnd (outSubsOf out)
      (compileFiles cc fl i o files ⟨outFilesOf out, clock, []⟩).clock name t hmem hh
    obtain ⟨t', ht'⟩ := runDir_some cc fl hd (i ++ "/" ++ name) (o ++ "/" ++ name) t
      (findSub (outSubsOf out) name) c
    refine ⟨c, t', Nat.le_trans
      (compileFiles_clock_le cc fl i o files ⟨outFilesOf out, clock, []⟩) h1, h2, ?_, ht'⟩
    rw [← ht', ← h3]; rfl
  · intro n hn
    refine runSubs_untouched cc fl i o subs (outSubsOf out) _ n ?_
    intro p hp hh e
    rcases hn with hn | hn
    · rw [e, hn] at hh; cases hh
    · exact hn (List.mem_map.mpr ⟨p, hp, e⟩)

example : Ex.flagsR.recurse = true ∧ Ex.flagsR.dry = false ∧ (Ex.subs.map (·.1)).Nodup ∧
    hidden "sub" = false ∧ hidden ".git" = true ∧ "other" ∉ Ex.subs.map (·.1) := by decide +kernel
example : ("sub", Ex.sub) ∈ Ex.subs := List.mem_cons_self
example : runDir Ex.cc Ex.flagsR "in" "out" Ex.tree Ex.out 10
    = (some (.mk [("a.css", ⟨"/*css*/a{}", 10⟩), ("b.css", ⟨"fresh", 7⟩), ("keep.txt", ⟨"k", 0⟩)]
              [("other", .mk [] []), ("sub", .mk [("c.css", ⟨"/*css*/c{}", 11⟩)] [])]),
       12, ["in/a.less -> out/a.css", "in/sub/c.less -> out/sub/c.css"]) := by decide +kernel
example : (runDir Ex.cc Ex.flagsR "in/sub" "out/sub" Ex.sub (findSub Ex.outSubs "sub") 11).1
    = some (.mk [("c.css", ⟨"/*css*/c{}", 11⟩)] []) := by decide +kernel

/-- **C16_norec**: without `--recurse` the sub-directories of the output directory are unchanged
    (none when it had to be created). -/
theorem C16_norec (cc : String → String) (fl : Flags) (hrec : fl.recurse = false)
    (i o : String) (files : List (String × File)) (subs : List (String × Tree))
    (out : Option Tree) (clock : Nat) (res : Tree)
    (h : (runDir cc fl i o (.mk files subs) out clock).1 = some res) :
    res.subs = outSubsOf out := by
  simp only [runDir_eq, hrec, Bool.false_eq_true, if_false, runSubs_nil] at h
  split at h
  · cases h; rfl
  · cases h

example : Ex.flags.recurse = false := rfl
example : ((runDir Ex.cc Ex.flags "in" "out" Ex.tree Ex.out 10).1.map Tree.subs) = some Ex.outSubs := by
  decide +kernel
example : ((runDir Ex.cc Ex.flags "in" "out" Ex.tree none 10).1.map Tree.subs) = some [] := by decide +kernel

/-! ### (7) a second run has nothing to do -/

/-- **C16_idem**: a real run (no `--dry-run`) over a well-formed tree, started after the last
    modification of any source (`maxSrcMtime t < clock` — true of every real run), leaves a state in
    which a second run without `--force` (all other flags the same) rewrites nothing and announces
    nothing: it returns the very same output tree — equality of trees, not only of look-ups — the
    same clock, and an empty stdout. -/
theorem C16_idem (cc : String → String) (fl : Flags) (hd : fl.dry = false) (i o : String) (t : Tree)
    (out : Option Tree) (clock : Nat) (hwf : WF t = true) (hm : maxSrcMtime t < clock)
    (out1 : Option Tree) (clock1 : Nat) (lg1 : List String)
    (hrun : runDir cc fl i o t out clock = (out1, clock1, lg1)) :
    runDir cc { fl with force := false } i o t out1 clock1 = (out1, clock1, []) := by
  have h := (run_idem cc fl { fl with force := false } hd rfl rfl rfl).1 t i o out clock hwf hm clock1
  rw [hrun] at h
  exact h

/-- **C16_idem_any_clock**: the same, the second run started at an arbitrary later (or earlier)
    time `c2`, and with `--dry-run` switched on or off at will. -/
theorem C16_idem_any_clock (cc : String → String) (fl : Flags) (hd : fl.dry = false) (i o : String)
    (t : Tree) (out : Option Tree) (clock : Nat) (hwf : WF t = true) (hm : maxSrcMtime t < clock)
    (dry2 : Bool) (c2 : Nat) :
    runDir cc { fl with force := false, dry := dry2 } i o t (runDir cc fl i o t out clock).1 c2
      = ((runDir cc fl i o t out clock).1, c2, []) :=
  (run_idem cc fl { fl with force := false, dry := dry2 } hd rfl rfl rfl).1 t i o out clock hwf hm c2

example : WF Ex.tree = true ∧ maxSrcMtime Ex.tree < 10 ∧ Ex.flagsF.dry = false := by decide +kernel
example : runDir Ex.cc Ex.flagsF "in" "out" Ex.tree Ex.out 10
    = (some (.mk [("a.css", ⟨"/*css*/a{}", 10⟩), ("b.css", ⟨"/*css*/b{}", 11⟩), ("keep.txt", ⟨"k", 0⟩)]
              [("other", .mk [] []), ("sub", .mk [("c.css", ⟨"/*css*/c{}", 12⟩)] [])]),
       13, ["in/a.less -> out/a.css", "in/b.less -> out/b.css", "in/sub/c.less -> out/sub/c.css"]) := by
  decide +kernel
example : runDir Ex.cc { Ex.flagsF with force := false } "in" "out" Ex.tree
      (some (.mk [("a.css", ⟨"/*css*/a{}", 10⟩), ("b.css", ⟨"/*css*/b{}", 11⟩), ("keep.txt", ⟨"k", 0⟩)]
              [("other", .mk [] []), ("sub", .mk [("c.css", ⟨"/*css*/c{}", 12⟩)] [])])) 13
    = (some (.mk [("a.css", ⟨"/*css*/a{}", 10⟩), ("b.css", ⟨"/*css*/b{}", 11⟩), ("keep.txt", ⟨"k", 0⟩)]
              [("other", .mk [] []), ("sub", .mk [("c.css", ⟨"/*css*/c{}", 12⟩)] [])]), 13, []) := by
  decide +kernel
-- the clock hypothesis matters: were the run started at time 4, before a.less (mtime 5) was last
-- modified, a.css would get mtime 4 < 5 and be stale again
example : ¬ maxSrcMtime Ex.tree < 4 := by decide +kernel
example : (runDir Ex.cc { Ex.flags with force := false } "in" "out" Ex.tree
      (runDir Ex.cc Ex.flags "in" "out" Ex.tree Ex.out 4).1 5).2.2 = ["in/a.less -> out/a.css"] := by
  decide +kernel

end Lessm.Batch
