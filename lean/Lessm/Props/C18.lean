/-
  C18  String literals: a quoted string is one token whatever it contains; the scanner reads back
       exactly the parts that were written; evaluation copies text verbatim and substitutes the
       de-quoted value of each `@{x}`; parts are independent.
-/
import Lessm.Model.Str
import Lessm.Lemmas.Basic
namespace Lessm.Str

theorem textChar_quote (q : Char) : textChar q q = false := by simp [textChar]

theorem textChar_iff (q c : Char) : textChar q c = true ↔ c ≠ '@' ∧ c ≠ q := by
  simp [textChar]

theorem nameChar_iff (q c : Char) : nameChar q c = true ↔ c ≠ '@' ∧ c ≠ q ∧ c ≠ '}' := by
  simp [nameChar, and_assoc]

theorem scan_text_step (q : Char) (s t : List Char) (fuel : Nat)
    (hs : s ≠ []) (hall : ∀ c ∈ s, textChar q c = true) (ht : ∀ c, t.head? = some c → textChar q c = false) :
    scan q (fuel + 1) (s ++ t) =
      match scan q fuel t with
      | some (ps, rest) => some (.text s :: ps, rest)
      | none => none := by
  cases s with
  | nil => exact absurd rfl hs
  | cons c s' =>
    have hc := (textChar_iff q c).1 (hall c List.mem_cons_self)
    have h1 : (c == q) = false := beq_eq_false_iff_ne.mpr hc.2
    have h2 : (c == '@') = false := beq_eq_false_iff_ne.mpr hc.1
    obtain ⟨ht', hd⟩ := List.span_boundary hall ht
    rw [List.cons_append] at ht' hd ⊢
    simp only [scan, h1, h2, ht', hd, Bool.false_eq_true, if_false]
    cases scan q fuel t <;> rfl

theorem scanName_render (q : Char) (n tl : List Char)
    (hn : n ≠ []) (hall : ∀ c ∈ n, nameChar q c = true) :
    scanName q ('{' :: (n ++ '}' :: tl)) = some (n, tl) := by
  obtain ⟨ht, hd⟩ := List.span_stop (r := tl) hall (show nameChar q '}' = false by simp [nameChar])
  cases n with
  | nil => exact absurd rfl hn
  | cons a n' => simp only [scanName, ht, hd, List.isEmpty_cons, Bool.false_eq_true, if_false]

theorem scan_interp_step (q : Char) (hq : q ≠ '@') (n tl : List Char) (fuel : Nat)
    (hn : n ≠ []) (hall : ∀ c ∈ n, nameChar q c = true) :
    scan q (fuel + 1) ('@' :: '{' :: (n ++ '}' :: tl)) =
      match scan q fuel tl with
      | some (ps, rest) => some (.interp n :: ps, rest)
      | none => none := by
  have h1 : ('@' == q) = false := beq_eq_false_iff_ne.mpr hq.symm
  simp only [scan, h1, Bool.false_eq_true, if_false, beq_self_eq_true, if_true,
    scanName_render q n tl hn hall]
  cases scan q fuel tl <;> rfl

/-- closing quote at once: the empty string -/
theorem C18_scan_empty (q : Char) (rest : List Char) (fuel : Nat) (hf : 1 ≤ fuel) :
    scan q fuel (q :: rest) = some ([], rest) := by
  cases fuel with
  | zero => omega
  | succ f => simp [scan]

/-- **C18_scan_plain**: whatever the body contains — braces, semicolons, comment markers, repeated
    spaces, combinator characters — as long as it has neither the delimiter nor `@`, it is ONE text
    part and scanning resumes exactly after the closing quote. -/
theorem C18_scan_plain (q : Char) (body rest : List Char)
    (h : ∀ c ∈ body, c ≠ q ∧ c ≠ '@') (hne : body ≠ []) (fuel : Nat)
    (hf : body.length + 1 ≤ fuel) :
    scan q fuel (body ++ q :: rest) = some ([.text body], rest) := by
  have hlen := List.length_pos_iff.mpr hne
  obtain ⟨f, rfl⟩ : ∃ f, fuel = f + 1 := ⟨fuel - 1, by omega⟩
  have hall : ∀ c ∈ body, textChar q c = true := fun c hc =>
    (textChar_iff q c).2 ⟨(h c hc).2, (h c hc).1⟩
  rw [scan_text_step q body (q :: rest) f hne hall fun _ h => Option.some.inj h ▸ textChar_quote q,
    C18_scan_empty q rest f (by omega)]

def startsText : List Part → Bool
  | .text _ :: _ => true
  | _ => false

/-- well-formed parts: every text part is a non-empty run of text characters, every name is a
    non-empty run of name characters, and no two text parts are adjacent (the lexer's text token is
    maximal) -/
def WFParts (q : Char) : List Part → Prop
  | [] => True
  | .text s :: r =>
      s ≠ [] ∧ (∀ c ∈ s, textChar q c = true) ∧ startsText r = false ∧ WFParts q r
  | .interp n :: r =>
      n ≠ [] ∧ (∀ c ∈ n, nameChar q c = true) ∧ WFParts q r

instance WFParts.dec (q : Char) : (ps : List Part) → Decidable (WFParts q ps)
  | [] => isTrue trivial
  | .text s :: r =>
      have := WFParts.dec q r
      (inferInstance : Decidable
        (s ≠ [] ∧ (∀ c ∈ s, textChar q c = true) ∧ startsText r = false ∧ WFParts q r))
  | .interp n :: r =>
      have := WFParts.dec q r
      (inferInstance : Decidable (n ≠ [] ∧ (∀ c ∈ n, nameChar q c = true) ∧ WFParts q r))

/-- what follows a text part (another `@{…}` or the closing quote) is never a text character -/
theorem render_stop (q : Char) (r : List Part) (rest : List Char) (h : startsText r = false) :
    ∀ c, (renderParts r ++ q :: rest).head? = some c → textChar q c = false := by
  intro c hc
  match r, h with
  | [], _ => exact Option.some.inj hc ▸ textChar_quote q
  | .interp n :: r', _ => exact Option.some.inj hc ▸ (show textChar q '@' = false by simp [textChar])
  | .text _ :: _, h => simp [startsText] at h

/-- **C18_scan_parts**: for a real delimiter (`q ≠ '@'`), the scanner reads back exactly the parts that
    were written, for any number of interpolations, and resumes exactly after the closing quote.
    (For `q = '@'` the statement is false as soon as there is an interpolation:
    see `C18_scan_parts_at_counterexample`.) -/
theorem C18_scan_parts (q : Char) (hq : q ≠ '@') (ps : List Part) (rest : List Char) :
    ∀ fuel : Nat, WFParts q ps → (renderParts ps).length + 1 ≤ fuel →
      scan q fuel (renderParts ps ++ q :: rest) = some (ps, rest) := by
  induction ps with
  | nil =>
    intro fuel _ hf
    exact C18_scan_empty q rest fuel (by simpa [renderParts] using hf)
  | cons p r ih =>
    intro fuel hwf hf
    obtain ⟨f, rfl⟩ : ∃ f, fuel = f + 1 := ⟨fuel - 1, by omega⟩
    cases p with
    | text s =>
      obtain ⟨hs, hall, hst, hr⟩ := hwf
      have hlen := List.length_pos_iff.mpr hs
      simp only [renderParts, List.length_append] at hf
      simp only [renderParts, List.append_assoc]
      rw [scan_text_step q s _ f hs hall (render_stop q r rest hst), ih f hr (by omega)]
    | interp n =>
      obtain ⟨hn, hall, hr⟩ := hwf
      simp only [renderParts, List.length_cons, List.length_append] at hf
      simp only [renderParts, List.cons_append, List.append_assoc]
      rw [scan_interp_step q hq n _ f hn hall, ih f hr (by omega)]

/-- the two delimiters of the language -/
theorem C18_scan_parts_quote (q : Char) (hq : q ∈ ['"', '\'']) (ps : List Part)
    (rest : List Char) (fuel : Nat) (hwf : WFParts q ps)
    (hf : (renderParts ps).length + 1 ≤ fuel) :
    scan q fuel (renderParts ps ++ q :: rest) = some (ps, rest) := by
  refine C18_scan_parts q ?_ ps rest fuel hwf hf
  rintro rfl
  revert hq
  decide

/-- why `q ≠ '@'` is needed in `C18_scan_parts`: with `@` as the delimiter, `@{x}` is well-formed
    but its first character already closes the string. -/
theorem C18_scan_parts_at_counterexample :
    WFParts '@' [.interp ['x']] ∧
    scan '@' 10 (renderParts [.interp ['x']] ++ '@' :: []) = some ([], ['{', 'x', '}', '@']) := by
  decide

/-- **C18_verbatim**: a string without interpolation evaluates to itself. -/
theorem C18_verbatim (ρ : List Char → Option (List Char)) (q : Char) (body : List Char) :
    evalString ρ q [.text body] = some (q :: body ++ [q]) := by
  simp [evalString, evalParts]

theorem C18_verbatim_empty (ρ : List Char → Option (List Char)) (q : Char) :
    evalString ρ q [] = some [q, q] := by
  simp [evalString, evalParts]

/-- **C18_subst**: text is copied, `@{x}` is replaced by the de-quoted value of x, in order. -/
theorem C18_subst (ρ : List Char → Option (List Char)) (ps : List Part)
    (h : ∀ n, .interp n ∈ ps → (ρ n).isSome) :
    evalParts ρ ps = some (ps.flatMap (fun p =>
      match p with
      | .text s => s
      | .interp n => destring ((ρ n).getD []))) := by
  induction ps with
  | nil => rfl
  | cons p r ih =>
    have ihr := ih (fun n hn => h n (by simp [hn]))
    cases p with
    | text s => simp [evalParts, ihr]
    | interp n =>
      have hn := h n (by simp)
      cases hρ : ρ n with
      | none => simp [hρ] at hn
      | some v => simp [evalParts, hρ, ihr]

/-- an undefined interpolated variable makes the whole string fail -/
theorem C18_subst_undefined (ρ : List Char → Option (List Char)) (ps : List Part)
    (n : List Char) (hmem : .interp n ∈ ps) (hρ : ρ n = none) : evalParts ρ ps = none := by
  induction ps with
  | nil => simp at hmem
  | cons p r ih =>
    rcases List.mem_cons.1 hmem with rfl | h
    · simp only [evalParts, hρ]
    · cases p with
      | text s => simp only [evalParts, ih h, Option.map_none]
      | interp m =>
        simp only [evalParts, ih h, Option.map_none]
        cases ρ m <;> rfl

def isQuote (c : Char) : Bool := c == '"' || c == '\''

theorem destring_eq (s : List Char) :
    destring s = ((s.dropWhile isQuote).reverse.dropWhile isQuote).reverse := rfl

/-- an unquoted value is substituted as it is -/
theorem C18_destring_unquoted (s : List Char)
    (hfirst : ∀ c, s.head? = some c → isQuote c = false)
    (hlast : ∀ c, s.getLast? = some c → isQuote c = false) : destring s = s := by
  have h1 : s.dropWhile isQuote = s := (List.span_boundary (a := []) (List.forall_mem_nil _) hfirst).2
  have h2 : s.reverse.dropWhile isQuote = s.reverse :=
    (List.span_boundary (a := []) (List.forall_mem_nil _) (List.head?_reverse ▸ hlast)).2
  rw [destring_eq, h1, h2, List.reverse_reverse]

/-- **C18_destring**: the delimiters of a quoted value are removed, nothing else -/
theorem C18_destring (q : Char) (hq : q ∈ ['"', '\'']) (s : List Char)
    (hfirst : ∀ c, s.head? = some c → isQuote c = false)
    (hlast : ∀ c, s.getLast? = some c → isQuote c = false) :
    destring (q :: s ++ [q]) = s := by
  have hqq : ∀ c ∈ [q], isQuote c = true := by simpa [isQuote] using hq
  rw [destring_eq]
  cases s with
  | nil => rw [List.dropWhile_all (List.forall_mem_append.mpr ⟨hqq, hqq⟩)]; rfl
  | cons a l =>
    -- the leading quote goes and the scan stops at `a`; then the same from the other end
    have h1 : (q :: (a :: l) ++ [q]).dropWhile isQuote = a :: l ++ [q] :=
      (List.span_stop hqq (hfirst a rfl)).2
    rw [h1, List.reverse_append, List.reverse_singleton,
      (List.span_boundary hqq (List.head?_reverse ▸ hlast)).2, List.reverse_reverse]

/-- **C18_compose**: the value of a concatenation is the concatenation of the values — what one part
    evaluates to does not depend on the others (no state). -/
theorem C18_compose (ρ : List Char → Option (List Char)) (a b : List Part) :
    evalParts ρ (a ++ b) = (evalParts ρ a).bind (fun x => (evalParts ρ b).map (x ++ ·)) := by
  induction a with
  | nil => cases h : evalParts ρ b <;> simp [evalParts, h]
  | cons p r ih =>
    -- prefixing a text commutes with the rest of the computation
    have key : ∀ t : List Char, (evalParts ρ (r ++ b)).map (t ++ ·) =
        ((evalParts ρ r).map (t ++ ·)).bind fun x => (evalParts ρ b).map (x ++ ·) := fun t => by
      simp only [ih, Option.map_bind, Option.bind_map, Option.map_map, Function.comp_def, List.append_assoc]
    cases p with
    | text s => simp only [List.cons_append, evalParts, key]
    | interp n =>
      simp only [List.cons_append, evalParts]
      cases ρ n with
      | none => rfl
      | some v => exact key _

/-- `a;b}c{ /* x */ // y  > + ~ , :` -/
def sampleBody : List Char := "a;b}c{ /* x */ // y  > + ~ , :".toList

/-- what the examples use of `sampleBody`, in one statement: the kernel then evaluates it once -/
theorem sampleBody_eval :
    (sampleBody ≠ [] ∧ ∀ c ∈ sampleBody, c ≠ '"' ∧ c ≠ '@') ∧ sampleBody.length + 1 ≤ 100 ∧
    scan '"' 100 (sampleBody ++ '"' :: "; }".toList) = some ([.text sampleBody], "; }".toList) := by
  decide +kernel

example : sampleBody ≠ [] ∧ ∀ c ∈ sampleBody, c ≠ '"' ∧ c ≠ '@' := sampleBody_eval.1
-- the same statement twice on purpose, here and for `sampleParts`: once through the theorem, once by evaluating `scan`
example : scan '"' 100 (sampleBody ++ '"' :: "; }".toList) = some ([.text sampleBody], "; }".toList) :=
  C18_scan_plain '"' sampleBody _ sampleBody_eval.1.2 sampleBody_eval.1.1 100 sampleBody_eval.2.1
example : scan '"' 100 (sampleBody ++ '"' :: "; }".toList) = some ([.text sampleBody], "; }".toList) :=
  sampleBody_eval.2.2

/-- `a/@{x}; }{@{yy} > b` with two interpolations -/
def sampleParts : List Part :=
  [.text "a/".toList, .interp "x".toList, .text "; }{".toList, .interp "yy".toList,
   .text " > b".toList]

/-- the same for `sampleParts`.  The third fact says which instance of `C18_scan_parts_quote` the scanned text is;
    left to the unifier, `String.toList` would be evaluated by the elaborator, far slower than by the kernel -/
theorem sampleParts_eval :
    WFParts '"' sampleParts ∧ renderParts sampleParts = "a/@{x}; }{@{yy} > b".toList ∧
    "a/@{x}; }{@{yy} > b\"; z".toList = renderParts sampleParts ++ '"' :: "; z".toList ∧
    (renderParts sampleParts).length + 1 ≤ 100 ∧
    scan '"' 100 ("a/@{x}; }{@{yy} > b\"; z".toList) = some (sampleParts, "; z".toList) := by
  decide +kernel

example : WFParts '"' sampleParts := sampleParts_eval.1
example : WFParts '\'' [.interp "x".toList, .interp "y".toList] := by decide +kernel
example : renderParts sampleParts = "a/@{x}; }{@{yy} > b".toList := sampleParts_eval.2.1
example : scan '"' 100 ("a/@{x}; }{@{yy} > b\"; z".toList) = some (sampleParts, "; z".toList) := by
  rw [sampleParts_eval.2.2.1]
  exact C18_scan_parts_quote '"' (by decide) sampleParts _ 100 sampleParts_eval.1 sampleParts_eval.2.2.2.1
example : scan '"' 100 ("a/@{x}; }{@{yy} > b\"; z".toList) = some (sampleParts, "; z".toList) :=
  sampleParts_eval.2.2.2.2

def sampleEnv : List Char → Option (List Char) := fun n =>
  if n = "x".toList then some "\"p q\"".toList
  else if n = "yy".toList then some "12px".toList else none

example : ∀ n, Part.interp n ∈ sampleParts → (sampleEnv n).isSome := by
  intro n hn
  simp only [sampleParts, List.mem_cons, List.not_mem_nil, or_false, reduceCtorEq, false_or,
    Part.interp.injEq] at hn
  rcases hn with rfl | rfl <;> decide +kernel
example : evalString sampleEnv '"' sampleParts = some "\"a/p q; }{12px > b\"".toList := by
  decide +kernel
example : evalParts sampleEnv [.text "a".toList, .interp "zz".toList] = none :=
  C18_subst_undefined sampleEnv _ "zz".toList (by simp) (by decide +kernel)
example : destring "\"p q\"".toList = "p q".toList := by
  have e : "\"p q\"".toList = '"' :: "p q".toList ++ ['"'] ∧
      (∀ c, "p q".toList.head? = some c → isQuote c = false) ∧
      ∀ c, "p q".toList.getLast? = some c → isQuote c = false := by decide +kernel
  rw [e.1]
  exact C18_destring '"' (by decide) "p q".toList e.2.1 e.2.2
example : destring "12px".toList = "12px".toList :=
  C18_destring_unquoted _ (by decide +kernel) (by decide +kernel)

end Lessm.Str
