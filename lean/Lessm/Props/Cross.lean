/-
  Cross  The evaluator models agree where their fragments overlap (conservative extension).

  The models (Nest, Vars, Media, Mixin) are tied to the code one by one; the theorems below tie them
  to each other.  Every theorem embeds the sheets of the smaller fragment into the larger model and
  compares the results through a common observation.

  Vocabulary (Lessm/Lemmas/CrossLemmas.lean):
    `Obs`                          one printed rule: selector list (token lists) and declarations as
                                   `(property, value text)`
    `obsN`, `obsV`, `obsM`         a Nest / Vars / Mixin output rule as an `Obs`; `obsV` reads a Vars
                                   path as ONE selector, the pieces of the levels separated by a
                                   descendant blank (`joinPath`), and a value as its strings concatenated
    `embedNV`, `embedNM`, `embedNX`  Nest sheets in Vars / Media / Mixin: a literal value is one literal
                                   token, a selector token a literal piece; constructors map to the
                                   constructors of the same name (`Mixin.Top` has no declaration:
                                   `embedNX` drops those of the top level, which print nothing)
    `embedVM`                      Vars sheets in Mixin (rules and declarations; see `commonVM`)
    `plainTok t`                   `t` is none of `*` `,` `&` `>` `+` `~` and not of the form `?c?`
    `plainSel s`                   `s` is not empty, all tokens plain, the last one not a blank
    `plainSheetN ts`               every selector of the Nest tree is `plainSel`
    `commonVM sheet`               the Vars sheet has rules only at top level, no variable definition
                                   anywhere, no `@{x}` in a selector, and every selector is `plainSel`
    `nestingNList`, `nestingVList` nesting depth (a declaration counts 1, a rule 1 + its body)

  Why the restrictions (they are properties of the models, not of the proofs):
    * Vars knows a selector only as a list of opaque strings per level; it has no `&`, no comma list,
      no combinator.  `plainSel` is the shape on which Nest's `identParse` is plain descendant
      concatenation, which is what a Vars path means.  Outside it the two differ (examples below).
    * Mixin has no variable definitions (names are bound by mixin parameters only) and no selector
      interpolation.  The overlap of Vars and Mixin is: rules, declarations with literal values, and
      declarations with references, which are then unbound on both sides — both report `unknownVar`
      for the first one in evaluation order.
    * Media and Mixin use Nest's selector machinery itself: no restriction there.
-/
import Lessm.Lemmas.CrossLemmas
import Lessm.Props.C03
import Lessm.Props.C05
import Lessm.Props.C07

namespace Lessm.Cross
open Lessm.Sel

/-- **X1**: Vars is conservative over Nest.  For every Nest sheet whose selectors are all `plainSel`,
    embedded in Vars (no definitions, no references, no interpolation), `Vars.compile` succeeds with
    every fuel (0 included: nothing is substituted) and prints what `Nest.compileSheet` prints: the
    same rules in the same order, with the same selectors and declarations. -/
theorem vars_conservative_over_nest (fuel : Nat) (ts : List Nest.Item)
    (h : plainSheetN ts = true) :
    (Vars.compile fuel (embedNV ts)).map (List.map obsV) = .ok ((Nest.compileSheet ts).map obsN) := by
  simp only [Vars.compile, passGList_embedNV, passEList_embedG, bind, Except.bind, pure, Except.pure]
  rw [Nest.C02_sheet]
  exact congrArg Except.ok (obs_flatVList (Or.inl ⟨rfl, rfl⟩) ts h)

/-- **X2**: Media is conservative over Nest, for every Nest sheet (all selector shapes): a media-free
    sheet is observed as exactly the rules of `Nest.compileSheet`, in the same order, each outside
    every `@media`. -/
theorem media_conservative_over_nest (ts : List Nest.Item) :
    Media.observe (embedNM ts)
      = (Nest.compileSheet ts).map (fun o => (⟨[], o.sels, o.decls⟩ : Media.Triple)) := by
  unfold Media.observe Media.compileSheet
  rw [← filter_not_self (media_none_list none ts), media_obs_list, Nest.C02_sheet]
  rfl

/-- **X2, specifications**: the declarative semantics of `@media` (Lessm/Spec/MediaSpec.lean) on a
    media-free sheet is Nest's flattening with `media = none`. -/
theorem media_spec_conservative_over_nest (ts : List Nest.Item) :
    Media.specSheet (embedNM ts)
      = (Nest.flatList none ts).map (fun o => (⟨none, o.sels, o.decls⟩ : Media.STriple)) := by
  rw [← Media.C07, media_conservative_over_nest, Nest.C02_sheet, List.map_map]
  rfl

/-- **X3**: Mixin is conservative over Vars on their common fragment.  For every Vars sheet in
    `commonVM` (no mixin definition or call exists in Vars; `commonVM` removes what Mixin lacks),
    every fuel ≥ 1 (the Mixin model substitutes with fuel 64; where nothing is defined all positive
    fuels agree) and gas at least the nesting depth minus one, `Mixin.compile` on the embedded sheet
    and `Vars.compile` give the same result: the same rules in the same order, or the same error
    (`unknownVar n` for the first unbound reference; `liftV` maps Vars' error type into Mixin's). -/
theorem mixin_conservative_over_vars (gas fuel : Nat) (sheet : List Vars.Item) (hf : 1 ≤ fuel)
    (hc : commonVM sheet = true) (hg : nestingVList sheet ≤ gas + 1) :
    (Mixin.compile gas (embedVM sheet)).map (List.map obsM)
      = (Mixin.liftV (Vars.compile fuel sheet)).map (List.map obsV) := by
  rw [compile_embedVM gas fuel sheet hf hc hg]
  cases Vars.compile fuel sheet with
  | error e => cases e <;> rfl
  | ok out =>
    simp only [Except.map, Mixin.liftV, List.map_map, Function.comp_def, obsM_toMV]

/-- **X4**: the specification sides agree likewise: the declarative semantics of variables
    (`Vars.specCompile`, Lessm/Spec/VarsSpec.lean) and the rule-by-rule reading of a mixin sheet
    (`Mixin.compileRules` against the sheet's table, Lessm/Spec/MixinSpec.lean), on `commonVM`.
    By X3, C03 (whose side condition `VarOK` holds on `commonVM`) and `C05_rule_still_emitted`. -/
theorem spec_agreement (gas fuel : Nat) (sheet : List Vars.Item) (hf : 1 ≤ fuel)
    (hc : commonVM sheet = true) (hg : nestingVList sheet ≤ gas + 1) :
    (Mixin.compileRules (Mixin.buildTable (embedVM sheet)) gas (Mixin.rulesOf (embedVM sheet))).map
        (List.map obsM)
      = (Mixin.liftV (Vars.specCompile fuel sheet)).map (List.map obsV) := by
  rw [← Mixin.C05_rule_still_emitted, ← Vars.C03 fuel sheet (VarOK_common sheet hc)]
  exact mixin_conservative_over_vars gas fuel sheet hf hc hg

/-- **X5**: Mixin is conservative over Nest, for every Nest sheet (all selector shapes: `&`, comma
    lists, combinators): with gas at least the nesting depth minus one, `Mixin.compile` on the
    embedded sheet succeeds and prints what `Nest.compileSheet` prints. -/
theorem mixin_conservative_over_nest (gas : Nat) (ts : List Nest.Item)
    (hg : nestingNList ts ≤ gas + 1) :
    (Mixin.compile gas (embedNX ts)).map (List.map obsM) = .ok ((Nest.compileSheet ts).map obsN) := by
  rw [Mixin.compile_eq_go, go_embedNX _ gas ts hg, Nest.C02_sheet]
  simp only [Except.map, List.map_map, Function.comp_def, obsM_toMN]

/-! ### non-vacuity: both sides evaluated in the kernel -/

/-- `.a { x:1; .b { y:2; .c:hover { z:3; w:4 } } v:5 }  #t { .u .w { k:0 } }` -/
private def sheetP : List Nest.Item :=
  [ .rule [".a"]
      [ .decl ⟨"x", "1"⟩,
        .rule [".b"] [.decl ⟨"y", "2"⟩, .rule [".c", ":hover"] [.decl ⟨"z", "3"⟩, .decl ⟨"w", "4"⟩]],
        .decl ⟨"v", "5"⟩ ],
    .rule ["#t"] [.rule [".u", " ", ".w"] [.decl ⟨"k", "0"⟩]] ]

private def obsP : List Obs :=
  [ ⟨[[".a"]], [("x", "1"), ("v", "5")]⟩,
    ⟨[[".a", " ", ".b"]], [("y", "2")]⟩,
    ⟨[[".a", " ", ".b", " ", ".c", ":hover"]], [("z", "3"), ("w", "4")]⟩,
    ⟨[["#t", " ", ".u", " ", ".w"]], [("k", "0")]⟩ ]

example : plainSheetN sheetP = true := by decide +kernel
example : (Nest.compileSheet sheetP).map obsN = obsP := by decide +kernel

/-- X1 on `sheetP`, with fuel 0 and with fuel 64 -/
example : (Vars.compile 0 (embedNV sheetP)).map (List.map obsV) = .ok obsP
    ∧ (Vars.compile 64 (embedNV sheetP)).map (List.map obsV)
        = .ok ((Nest.compileSheet sheetP).map obsN) := by decide +kernel

/-- what Vars itself returns: paths, not combined selectors -/
example : Vars.compile 1 (embedNV sheetP) = .ok
    [ ⟨[[".a"]], [("x", ["1"]), ("v", ["5"])]⟩,
      ⟨[[".a"], [".b"]], [("y", ["2"])]⟩,
      ⟨[[".a"], [".b"], [".c", ":hover"]], [("z", ["3"]), ("w", ["4"])]⟩,
      ⟨[["#t"], [".u", " ", ".w"]], [("k", ["0"])]⟩ ] := by decide +kernel

/-- `plainSheetN` is not superfluous: with `&`, a comma list or a combinator the Vars path is not the
    selector Nest computes -/
example :
    plainSheetN [.rule [".a"] [.rule ["&", ":hover"] [.decl ⟨"x", "1"⟩, .decl ⟨"y", "2"⟩]]] = false
    ∧ (Nest.compileSheet [.rule [".a"] [.rule ["&", ":hover"] [.decl ⟨"x", "1"⟩, .decl ⟨"y", "2"⟩]]]).map obsN
        = [⟨[[".a", ":hover"]], [("x", "1"), ("y", "2")]⟩]
    ∧ (Vars.compile 1 (embedNV [.rule [".a"] [.rule ["&", ":hover"] [.decl ⟨"x", "1"⟩, .decl ⟨"y", "2"⟩]]])).map
          (List.map obsV)
        = .ok [⟨[[".a", " ", "&", ":hover"]], [("x", "1"), ("y", "2")]⟩] := by decide +kernel
example :
    plainSheetN [.rule [".a", ",", ".b"] [.rule [">", ".c"] [.decl ⟨"x", "1"⟩]]] = false
    ∧ (Nest.compileSheet [.rule [".a", ",", ".b"] [.rule [">", ".c"] [.decl ⟨"x", "1"⟩]]]).map obsN
        = [⟨[[".a", "?>?", ".c"], [".b", "?>?", ".c"]], [("x", "1")]⟩]
    ∧ (Vars.compile 1 (embedNV [.rule [".a", ",", ".b"] [.rule [">", ".c"] [.decl ⟨"x", "1"⟩]]])).map
          (List.map obsV)
        = .ok [⟨[[".a", ",", ".b", " ", ">", ".c"]], [("x", "1")]⟩] := by decide +kernel

/-- a sheet with a comma list, `&` and a combinator, for the unrestricted theorems X2 and X5:
    `.a, .b { x:1; &:hover { y:2; > .c { z:3; w:4 } } v:5 }  #t { .u { k:0 } }` -/
private def sheetQ : List Nest.Item :=
  [ .rule [".a", ",", ".b"]
      [ .decl ⟨"x", "1"⟩,
        .rule ["&", ":hover"] [.decl ⟨"y", "2"⟩, .rule [">", ".c"] [.decl ⟨"z", "3"⟩, .decl ⟨"w", "4"⟩]],
        .decl ⟨"v", "5"⟩ ],
    .rule ["#t"] [.rule [".u"] [.decl ⟨"k", "0"⟩]] ]

private def outQ : List Nest.OutRule :=
  [ ⟨[[".a"], [".b"]], [⟨"x", "1"⟩, ⟨"v", "5"⟩]⟩,
    ⟨[[".a", ":hover"], [".b", ":hover"]], [⟨"y", "2"⟩]⟩,
    ⟨[[".a", ":hover", "?>?", ".c"], [".b", ":hover", "?>?", ".c"]], [⟨"z", "3"⟩, ⟨"w", "4"⟩]⟩,
    ⟨[["#t", " ", ".u"]], [⟨"k", "0"⟩]⟩ ]

example : Nest.compileSheet sheetQ = outQ := by decide +kernel

/-- X2 on `sheetQ` and on `sheetP` -/
example : Media.observe (embedNM sheetQ) = outQ.map (fun o => ⟨[], o.sels, o.decls⟩)
    ∧ Media.observe (embedNM sheetP)
        = (Nest.compileSheet sheetP).map (fun o => ⟨[], o.sels, o.decls⟩) := by decide +kernel
example : Media.specSheet (embedNM sheetQ) = outQ.map (fun o => ⟨none, o.sels, o.decls⟩) := by
  decide +kernel

/-- X5 on `sheetQ`: nesting depth 4, gas 3 is enough and 2 is not -/
example : nestingNList sheetQ = 4 := by decide +kernel
example : (Mixin.compile 3 (embedNX sheetQ)).map (List.map obsM) = .ok (outQ.map obsN) := by
  rw [Mixin.compile_of_F 50 3 (embedNX sheetQ) (.ok (outQ.map toMN)) (by decide +kernel)]
  rfl
example : Mixin.compile 2 (embedNX sheetQ) = .error .crash :=
  Mixin.compile_of_F 50 _ _ _ (by decide +kernel)

/-- a Vars sheet of the common fragment; one value has two tokens:
    `.a { x:1; .b { y:2px; .c:hover { z:3; w:4 } } v:5 }  #t { .u { k:0 } }` -/
private def sheetV : List Vars.Item :=
  [ .rule [.lit ".a"]
      [ .decl "x" [.lit "1"],
        .rule [.lit ".b"]
          [ .decl "y" [.lit "2", .lit "px"],
            .rule [.lit ".c", .lit ":hover"] [.decl "z" [.lit "3"], .decl "w" [.lit "4"]] ],
        .decl "v" [.lit "5"] ],
    .rule [.lit "#t"] [.rule [.lit ".u"] [.decl "k" [.lit "0"]]] ]

private def outMV : List Mixin.OutRule :=
  [ ⟨[[".a"]], [("x", "1"), ("v", "5")]⟩,
    ⟨[[".a", " ", ".b"]], [("y", "2px")]⟩,
    ⟨[[".a", " ", ".b", " ", ".c", ":hover"]], [("z", "3"), ("w", "4")]⟩,
    ⟨[["#t", " ", ".u"]], [("k", "0")]⟩ ]

/-- the rules of the embedded `sheetV` evaluated against its table, once for the examples of X3 and X4 -/
private theorem rulesV : Mixin.compileRulesF (Mixin.buildTable (embedVM sheetV)) 50 3
    (Mixin.rulesOf (embedVM sheetV)) = some (.ok outMV) := by decide +kernel

example : commonVM sheetV = true ∧ nestingVList sheetV = 4 := by decide +kernel
example : Mixin.compile 3 (embedVM sheetV) = .ok outMV := Mixin.compile_of_F 50 _ _ _ rulesV
example : Vars.compile 64 sheetV = .ok
    [ ⟨[[".a"]], [("x", ["1"]), ("v", ["5"])]⟩,
      ⟨[[".a"], [".b"]], [("y", ["2", "px"])]⟩,
      ⟨[[".a"], [".b"], [".c", ":hover"]], [("z", ["3"]), ("w", ["4"])]⟩,
      ⟨[["#t"], [".u"]], [("k", ["0"])]⟩ ] := by decide +kernel

/-- X3 on `sheetV` -/
example : (Mixin.compile 3 (embedVM sheetV)).map (List.map obsM)
    = (Mixin.liftV (Vars.compile 64 sheetV)).map (List.map obsV) := by
  rw [Mixin.compile_of_F 50 3 (embedVM sheetV) (.ok outMV) rulesV]
  decide +kernel

/-- X3, error case: an unbound reference at depth 2, after a declaration that evaluates, with a
    second unbound reference behind it: both sides report the first one -/
private def sheetE : List Vars.Item :=
  [ .rule [.lit ".a"]
      [ .decl "x" [.lit "1"],
        .rule [.lit ".b"] [.decl "y" [.lit "2"], .decl "w" [.lit "p", .ref "nope", .ref "other"]],
        .decl "v" [.ref "late"] ] ]

example : commonVM sheetE = true ∧ nestingVList sheetE = 3 := by decide +kernel
example : (Mixin.compile 2 (embedVM sheetE)).map (List.map obsM)
      = (Mixin.liftV (Vars.compile 1 sheetE)).map (List.map obsV)
    ∧ (Mixin.liftV (Vars.compile 1 sheetE)).map (List.map obsV) = .error (.unknownVar "nope") := by
  rw [Mixin.compile_of_F 50 2 (embedVM sheetE) (.error (.unknownVar "nope")) (by decide +kernel)]
  decide +kernel

/-- `1 ≤ fuel` is not superfluous: with fuel 0 Vars reports `hang` where Mixin (which always
    substitutes with fuel 64) reports the unknown variable -/
example : Vars.compile 0 sheetE = .error .hang := by decide +kernel

/-- the gas bound is the right one: one less and the Mixin model runs out of stack -/
example : Mixin.compile 2 (embedVM sheetV) = .error .crash :=
  Mixin.compile_of_F 50 _ _ _ (by decide +kernel)

/-- `commonVM` is not superfluous: a variable definition has no image in Mixin — Vars resolves the
    reference, the embedded sheet cannot -/
example :
    commonVM [.rule [.lit ".a"] [.vdef "c" [.lit "red"], .decl "x" [.ref "c"], .decl "y" [.lit "1"]]] = false
    ∧ Vars.compile 64 [.rule [.lit ".a"] [.vdef "c" [.lit "red"], .decl "x" [.ref "c"], .decl "y" [.lit "1"]]]
        = .ok [⟨[[".a"]], [("x", ["red"]), ("y", ["1"])]⟩] := by decide +kernel
example :
    Mixin.compile 3 (embedVM [.rule [.lit ".a"] [.vdef "c" [.lit "red"], .decl "x" [.ref "c"], .decl "y" [.lit "1"]]])
      = .error (.unknownVar "c") := Mixin.compile_of_F 50 _ _ _ (by decide +kernel)

/-- X4 on `sheetV` and `sheetE`: the two specification sides, evaluated -/
example : Vars.VarOK sheetV = true ∧ Vars.VarOK sheetE = true := by decide +kernel
example : (Mixin.compileRules (Mixin.buildTable (embedVM sheetV)) 3 (Mixin.rulesOf (embedVM sheetV))).map
      (List.map obsM)
    = (Mixin.liftV (Vars.specCompile 64 sheetV)).map (List.map obsV) := by
  rw [Mixin.compileRulesF_sound 50 3 (.ok outMV) rulesV]
  decide +kernel
example : (Mixin.compileRules (Mixin.buildTable (embedVM sheetE)) 2 (Mixin.rulesOf (embedVM sheetE))).map
      (List.map obsM)
    = (Mixin.liftV (Vars.specCompile 5 sheetE)).map (List.map obsV) := by
  rw [Mixin.compileRulesF_sound 50 2 (.error (.unknownVar "nope")) (by decide +kernel)]
  decide +kernel

end Lessm.Cross
