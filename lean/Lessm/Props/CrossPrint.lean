/-
  Cross (printers)  The minified printer inside the at-rule model is the general formatter model at the
  minified fill table.

  `AtRule.printList` (Lessm/Model/AtRule.lean) was written next to the at-rule evaluator as "`Block.fmt`
  with nl = ws = tab = "", eb = "\n"".  `Print.fmtNodes` (Lessm/Model/Print.lean) models `Block.fmt`,
  `Property.fmt`, `Identifier.fmt`, `Statement.fmt` for every option vector.  X9 embeds an (evaluated)
  at-rule tree into the formatter's trees and shows that the two printers give the same text.

  The two models trim the body of a nested block differently: `AtRule.printItem` with
  `String.trimAscii` (blank, \t, \r, \n), `Print.fmtNode` with `Print.strip` (Python's `str.strip()`:
  these four and \x0b, \x0c).  They are related here through a list characterisation of
  `String.trimAscii` (`toList_trimAscii`); they agree on every string without \x0b / \x0c
  (`trim_agree`), and they do differ otherwise (example at the end).  X9 therefore carries the
  hypothesis `BodiesNoVT`: no string INSIDE a nested body (`@media`, `@keyframes`) contains \x0b or
  \x0c.  Strings at top level (statements, selectors, preludes, the keyword / name / query of the
  nested blocks themselves) are unrestricted.
-/
import Lessm.Model.AtRule
import Lessm.Lemmas.PrintLemmas

namespace Lessm.Cross
open Lessm

def declAP (d : AtRule.Decl) : Print.Decl := ⟨d.prop, [.tok d.value], false⟩

mutual
/-- an (evaluated) at-rule tree as a tree of the formatter model: an ordinary rule, an @font-face/@viewport block and a
    keyframe are rules whose "selector" is their prelude; @keyframes and @media are printed nested -/
def embedAPItem : AtRule.Item → Print.Node
  | .stmt t => .stmt t
  | .keyframes kw n fs => .nest (kw ++ " " ++ n) (fs.map (fun f => .rule [[.text f.sel]] (f.decls.map declAP)))
  | .declBlock p ds => .rule [[.text p]] (ds.map declAP)
  | .rule s ds => .rule [[.text s]] (ds.map declAP)
  | .media q body => .nest ("@media " ++ q) (embedAP body)
def embedAP : List AtRule.Item → List Print.Node
  | [] => []
  | i :: is => embedAPItem i :: embedAP is
end

/-- minified, not xminified: nl = tab = ws = "", eb = "\n" -/
def minOpts : Print.Opts := ⟨true, false, false, 0⟩

/-- the string contains neither \x0b (vertical tab) nor \x0c (form feed): the two characters that
    Python's `str.strip()` (`Print.isWs`) removes and `String.trimAscii` (`Char.isWhitespace`) keeps -/
def noVT (s : String) : Bool := s.toList.all (fun c => c != '\x0b' && c != '\x0c')

def noVTDecls (ds : List AtRule.Decl) : Bool := ds.all (fun d => noVT d.prop && noVT d.value)

def noVTFrames (fs : List AtRule.Frame) : Bool := fs.all (fun f => noVT f.sel && noVTDecls f.decls)

mutual
/-- no string of the item, at any depth, contains \x0b or \x0c -/
def noVTItem : AtRule.Item → Bool
  | .stmt t => noVT t
  | .keyframes kw n fs => noVT kw && noVT n && noVTFrames fs
  | .declBlock p ds => noVT p && noVTDecls ds
  | .rule s ds => noVT s && noVTDecls ds
  | .media q body => noVT q && noVTList body
def noVTList : List AtRule.Item → Bool
  | [] => true
  | i :: is => noVTItem i && noVTList is
end

/-- the strings inside the nested body of the item (if it has one) contain neither \x0b nor \x0c;
    nothing is asked of the item's own prelude -/
def bodyNoVT : AtRule.Item → Bool
  | .keyframes _ _ fs => noVTFrames fs
  | .media _ body => noVTList body
  | _ => true

/-- every nested body of the sheet is free of \x0b and \x0c -/
def BodiesNoVT (is : List AtRule.Item) : Bool := is.all bodyNoVT

/-! ### `String.trimAscii` as a list function

  Std says what `dropWhile` does to a slice by three facts: the slice is its `takeWhile` part followed
  by its `dropWhile` part, every character of the first satisfies `p`, the second does not begin with
  one.  Read on `toList` these are the hypotheses of `List.span_boundary`; the same from the other end. -/

theorem toList_slice_dropWhile (p : Char → Bool) (s : String.Slice) :
    (s.dropWhile p).copy.toList = s.copy.toList.dropWhile p := by
  have h1 := String.Slice.takeWhile_append_dropWhile (pat := p) (s := s)
  have h2 := String.Slice.all_takeWhile (pat := p) (s := s)
  have h3 := String.Slice.startsWith_dropWhile (pat := p) (s := s)
  rw [String.Slice.all_bool_eq] at h2
  rw [String.Slice.startsWith_bool_eq_head?] at h3
  rw [← h1, String.toList_append, List.dropWhile_append_of_all h2 h3]

theorem toList_slice_dropEndWhile (p : Char → Bool) (s : String.Slice) :
    (s.dropEndWhile p).copy.toList = (s.copy.toList.reverse.dropWhile p).reverse := by
  have h1 := String.Slice.dropEndWhile_append_takeEndWhile (pat := p) (s := s)
  have h2 := String.Slice.revAll_takeEndWhile (pat := p) (s := s)
  have h3 := String.Slice.endsWith_dropEndWhile (pat := p) (s := s)
  rw [String.Slice.revAll_bool_eq] at h2
  rw [String.Slice.endsWith_bool_eq_getLast?] at h3
  rw [← h1, String.toList_append, List.reverse_append,
    List.dropWhile_append_of_all (by simpa using h2) (by simpa using h3), List.reverse_reverse]

/-- `String.trimAscii` on the list of characters: `Print.strip` with `Char.isWhitespace` for `Print.isWs` -/
theorem toList_trimAscii (s : String) :
    s.trimAscii.toString.toList
      = ((s.toList.dropWhile Char.isWhitespace).reverse.dropWhile Char.isWhitespace).reverse := by
  show ((s.toSlice.dropWhile Char.isWhitespace).dropEndWhile Char.isWhitespace).copy.toList = _
  rw [toList_slice_dropEndWhile, toList_slice_dropWhile, String.copy_toSlice]

theorem trimAscii_eq (s : String) :
    s.trimAscii.toString
      = String.ofList ((s.toList.dropWhile Char.isWhitespace).reverse.dropWhile Char.isWhitespace).reverse := by
  rw [← toList_trimAscii, String.ofList_toList]

theorem isWs_eq_isWhitespace (c : Char) (h1 : c ≠ '\x0b') (h2 : c ≠ '\x0c') :
    Print.isWs c = c.isWhitespace := by
  -- without \x0b and \x0c the two tests differ in the place of '\n' only
  rw [Print.isWs, beq_eq_false_iff_ne.mpr h1, beq_eq_false_iff_ne.mpr h2, Bool.or_false, Bool.or_false,
    Bool.or_right_comm (c == ' '), Bool.or_right_comm _ (c == '\n')]
  rfl

theorem noVT_iff (s : String) : noVT s = true ↔ ∀ c ∈ s.toList, c ≠ '\x0b' ∧ c ≠ '\x0c' := by
  simp [noVT]

/-- **trim_agree**: on a string without \x0b and \x0c the trim of the at-rule model
    (`String.trimAscii`) is the trim of the formatter model (`Print.strip`) -/
theorem trim_agree (s : String) (h : ∀ c ∈ s.toList, c ≠ '\x0b' ∧ c ≠ '\x0c') :
    s.trimAscii.toString = Print.strip s := by
  have hag : ∀ c ∈ s.toList, Char.isWhitespace c = Print.isWs c :=
    fun c hc => (isWs_eq_isWhitespace c (h c hc).1 (h c hc).2).symm
  rw [trimAscii_eq, Print.strip, List.dropWhile_congr_mem hag]
  congr 2
  apply List.dropWhile_congr_mem
  intro c hc
  exact hag c ((List.dropWhile_sublist _).subset (List.mem_reverse.1 hc))

/-! ### the printed text of a tree without \x0b, \x0c has neither, so that `trim_agree` applies to the
  text of a nested body -/

theorem noVT_append (a b : String) : noVT (a ++ b) = (noVT a && noVT b) := by
  simp [noVT, String.toList_append]

theorem noVT_trimAscii {s : String} (h : noVT s = true) : noVT s.trimAscii.toString = true := by
  rw [noVT_iff] at h ⊢
  intro c hc
  rw [toList_trimAscii] at hc
  exact h c ((List.trim_sublist _ _).subset hc)

theorem noVT_lits : noVT "" = true ∧ noVT ":" = true ∧ noVT ";" = true ∧ noVT "{" = true ∧ noVT "}\n" = true
    ∧ noVT " " = true ∧ noVT "\n" = true ∧ noVT "@media " = true := by decide +kernel

theorem noVT_join (l : List String) (h : ∀ s ∈ l, noVT s = true) : noVT (String.join l) = true := by
  induction l with
  | nil => exact noVT_lits.1
  | cons s r ih =>
    rw [String.join_cons, noVT_append, h s List.mem_cons_self, ih fun x hx => h x (List.mem_cons_of_mem _ hx)]
    rfl

theorem noVT_printDecls {ds : List AtRule.Decl} (h : noVTDecls ds = true) :
    noVT (AtRule.printDecls ds) = true := by
  refine noVT_join _ fun s hs => ?_
  obtain ⟨d, hd, rfl⟩ := List.mem_map.mp hs
  have hd := List.all_eq_true.mp h d hd
  rw [Bool.and_eq_true] at hd
  simp only [noVT_append, hd.1, hd.2, noVT_lits, Bool.and_self]

/-- the text of the frames of an `@keyframes` block, before trimming -/
def framesText (fs : List AtRule.Frame) : String :=
  String.join (fs.map (fun f => f.sel ++ "{" ++ AtRule.printDecls f.decls ++ "}\n"))

theorem noVT_framesText (fs : List AtRule.Frame) (h : noVTFrames fs = true) :
    noVT (framesText fs) = true := by
  refine noVT_join _ fun s hs => ?_
  obtain ⟨f, hf, rfl⟩ := List.mem_map.mp hs
  have hf := List.all_eq_true.mp h f hf
  rw [Bool.and_eq_true] at hf
  simp only [noVT_append, hf.1, noVT_printDecls hf.2, noVT_lits, Bool.and_self]

theorem printItem_keyframes (kw n : String) (fs : List AtRule.Frame) :
    AtRule.printItem (.keyframes kw n fs)
      = kw ++ " " ++ n ++ "{" ++ (framesText fs).trimAscii.toString ++ "}\n" := by
  rw [AtRule.printItem]; rfl

mutual
theorem noVT_printItem : ∀ i : AtRule.Item, noVTItem i = true → noVT (AtRule.printItem i) = true
  | .stmt t, h => by
      rw [noVTItem] at h
      simp only [AtRule.printItem, noVT_append, h, noVT_lits, Bool.and_self]
  | .keyframes kw n fs, h => by
      simp only [noVTItem, Bool.and_eq_true] at h
      simp only [printItem_keyframes, noVT_append, h.1.1, h.1.2, noVT_lits,
        noVT_trimAscii (noVT_framesText fs h.2), Bool.and_self]
  | .declBlock p ds, h | .rule p ds, h => by
      rw [noVTItem, Bool.and_eq_true] at h
      simp only [AtRule.printItem, noVT_append, h.1, noVT_printDecls h.2, noVT_lits, Bool.and_self]
  | .media q body, h => by
      rw [noVTItem, Bool.and_eq_true] at h
      simp only [AtRule.printItem, noVT_append, h.1, noVT_lits,
        noVT_trimAscii (noVT_printList body h.2), Bool.and_self]
theorem noVT_printList : ∀ is : List AtRule.Item, noVTList is = true → noVT (AtRule.printList is) = true
  | [], _ => by simp only [AtRule.printList, noVT_lits]
  | i :: is, h => by
      rw [noVTList, Bool.and_eq_true] at h
      simp only [AtRule.printList, noVT_append, noVT_printItem i h.1, noVT_printList is h.2, Bool.and_self]
end

theorem bodyNoVT_of_noVTItem (i : AtRule.Item) (h : noVTItem i = true) : bodyNoVT i = true := by
  cases i with
  | keyframes | media => rw [noVTItem, Bool.and_eq_true] at h; exact h.2
  | _ => rfl

theorem bodiesNoVT_of_noVTList (is : List AtRule.Item) (h : noVTList is = true) : BodiesNoVT is = true := by
  induction is with
  | nil => rfl
  | cons i is ih =>
    rw [noVTList, Bool.and_eq_true] at h
    rw [BodiesNoVT, List.all_cons, bodyNoVT_of_noVTItem i h.1]
    exact ih h.2

/-! ### the formatter at the minified fill table -/

/-- the minified fill table with end-of-block "\n" -/
abbrev F : Print.Fills := Print.MF "\n"

theorem fills_minOpts : Print.fills minOpts = F := by decide

theorem rbrace_nl : ("}\n" : String) = "}" ++ "\n" := by decide

theorem fmtDecl_declAP (d : AtRule.Decl) : Print.fmtDecl F (declAP d) = d.prop ++ ":" ++ d.value ++ ";" := by
  simp only [Print.fmtDecl, declAP, Print.fmtValue, F, Print.MF, String.append_empty, String.empty_append,
    Bool.false_eq_true, if_false]

theorem fmtDecls_declAP (ds : List AtRule.Decl) :
    Print.fmtDecls F (ds.map declAP) = AtRule.printDecls ds := by
  unfold AtRule.printDecls
  induction ds with
  | nil => rfl
  | cons d r ih => rw [List.map_cons, Print.fmtDecls, List.map_cons, String.join_cons, ih, fmtDecl_declAP]

theorem fmtIdent_text (f : Print.Fills) (s : String) : Print.fmtIdent f [[.text s]] = s := by
  simp [Print.fmtIdent, Print.joinWith, Print.fmtSel]

theorem fmtNode_ruleAP {s : String} {ds : List AtRule.Decl} (h : ds.isEmpty = false) :
    Print.fmtNode F (.rule [[.text s]] (ds.map declAP)) = s ++ "{" ++ AtRule.printDecls ds ++ "}\n" := by
  have h' : (ds.map declAP).isEmpty = false := by simpa using h
  rw [Print.fmtNode_rule, h', fmtIdent_text, fmtDecls_declAP, rbrace_nl]
  simp only [Bool.false_eq_true, if_false, F, Print.MF, String.append_empty, String.append_assoc]

theorem fmtNode_nestF {p : String} {inner : List Print.Node} (h : inner.isEmpty = false) :
    Print.fmtNode F (.nest p inner) = p ++ "{" ++ Print.strip (Print.fmtNodes F inner) ++ "}\n" := by
  rw [Print.fmtNode_nest_M, h, rbrace_nl]
  simp only [Bool.false_eq_true, if_false, String.append_assoc]

theorem fmtNodes_frames (fs : List AtRule.Frame) (h : fs.all (fun f => !f.decls.isEmpty) = true) :
    Print.fmtNodes F (fs.map (fun f => .rule [[.text f.sel]] (f.decls.map declAP))) = framesText fs := by
  unfold framesText
  induction fs with
  | nil => simp [Print.fmtNodes_nil]
  | cons f r ih =>
    simp only [List.all_cons, Bool.and_eq_true, Bool.not_eq_true'] at h
    simp only [List.map_cons, Print.fmtNodes_cons, String.join_cons, fmtNode_ruleAP h.1]
    rw [ih (by simpa using h.2)]

theorem embedAP_isEmpty (is : List AtRule.Item) : (embedAP is).isEmpty = is.isEmpty := by
  cases is <;> simp [embedAP]

mutual
theorem printItem_eq : ∀ i : AtRule.Item, AtRule.Full i = true → bodyNoVT i = true →
    AtRule.printItem i = Print.fmtNode F (embedAPItem i)
  | .stmt t, _, _ => by
      rw [embedAPItem, Print.fmtNode_stmt, AtRule.printItem]; rfl
  | .keyframes kw n fs, hf, hv => by
      simp only [AtRule.Full, Bool.and_eq_true, Bool.not_eq_true'] at hf
      have hne : (fs.map (fun f => Print.Node.rule [[.text f.sel]] (f.decls.map declAP))).isEmpty = false := by
        simpa using hf.1
      rw [embedAPItem, fmtNode_nestF hne, fmtNodes_frames fs hf.2, printItem_keyframes,
        trim_agree _ ((noVT_iff _).1 (noVT_framesText fs hv))]
  | .declBlock p ds, hf, _ | .rule p ds, hf, _ => by
      simp only [AtRule.Full, Bool.not_eq_true'] at hf
      rw [embedAPItem, fmtNode_ruleAP hf, AtRule.printItem]
  | .media q body, hf, hv => by
      simp only [AtRule.Full, Bool.and_eq_true, Bool.not_eq_true'] at hf
      have hv' : noVTList body = true := hv
      rw [embedAPItem, fmtNode_nestF (by rw [embedAP_isEmpty]; exact hf.1),
        ← printList_eq body hf.2 (bodiesNoVT_of_noVTList body hv'), AtRule.printItem,
        trim_agree _ ((noVT_iff _).1 (noVT_printList body hv'))]
theorem printList_eq : ∀ is : List AtRule.Item, AtRule.FullList is = true → BodiesNoVT is = true →
    AtRule.printList is = Print.fmtNodes F (embedAP is)
  | [], _, _ => by rw [embedAP, Print.fmtNodes_nil, AtRule.printList]
  | i :: is, hf, hv => by
      simp only [AtRule.FullList, Bool.and_eq_true] at hf
      simp only [BodiesNoVT, List.all_cons, Bool.and_eq_true] at hv
      rw [embedAP, Print.fmtNodes_cons, AtRule.printList, printItem_eq i hf.1 hv.1,
        printList_eq is hf.2 hv.2]
end

/-- **X9**: the printer of the at-rule model is the formatter model at the minified fill table
    (`--minify`: nl = tab = ws = "", eb = "\n").  For every at-rule tree without empty blocks (`FullList`:
    what `AtRule.evalList` produces and C19 quantifies over; the formatter prints nothing for an empty
    block where `AtRule.printItem` prints `s{}`) in which no string inside an `@media` / `@keyframes` body
    contains \x0b or \x0c (`BodiesNoVT`: the two models trim such a body with `String.trimAscii` and with
    Python's `strip()` respectively, which differ exactly on these two characters),
    `AtRule.printList` prints what `Print.fmtNodes` prints for the embedded tree. -/
theorem atrule_print_is_formatter (is : List AtRule.Item) (hf : AtRule.FullList is = true)
    (hv : BodiesNoVT is = true) :
    AtRule.printList is = Print.fmtNodes (Print.fills minOpts) (embedAP is) := by
  rw [fills_minOpts]
  exact printList_eq is hf hv

/-- X9 for trees in which no string at all contains \x0b or \x0c -/
theorem atrule_print_is_formatter_noVT (is : List AtRule.Item) (hf : AtRule.FullList is = true)
    (hv : noVTList is = true) :
    AtRule.printList is = Print.fmtNodes (Print.fills minOpts) (embedAP is) :=
  atrule_print_is_formatter is hf (bodiesNoVT_of_noVTList is hv)

/-- X9 and the final `strip` of `Formatter.format`: the whole minified output -/
theorem atrule_format_is_formatter (is : List AtRule.Item) (hf : AtRule.FullList is = true)
    (hv : BodiesNoVT is = true) :
    Print.strip (AtRule.printList is) = Print.format minOpts (embedAP is) := by
  rw [Print.format, atrule_print_is_formatter is hf hv]

/-! ### non-vacuity -/

/-- `@charset "utf-8";  .a{color:red;width:5px;}  @media screen{.b{x:1;} .c{y:2;z:3;}}
    @-webkit-keyframes spin{from{top:0;} to{top:10px;left:1px;}}  @font-face{font-family:F;src:url(f.woff);}` -/
private def exTree : List AtRule.Item :=
  [ .stmt "@charset \"utf-8\";",
    .rule ".a" [⟨"color", "red"⟩, ⟨"width", "5px"⟩],
    .media "screen" [.rule ".b" [⟨"x", "1"⟩], .rule ".c" [⟨"y", "2"⟩, ⟨"z", "3"⟩]],
    .keyframes "@-webkit-keyframes" "spin" [⟨"from", [⟨"top", "0"⟩]⟩, ⟨"to", [⟨"top", "10px"⟩, ⟨"left", "1px"⟩]⟩],
    .declBlock "@font-face" [⟨"font-family", "F"⟩, ⟨"src", "url(f.woff)"⟩] ]

private def exText : String :=
  "@charset \"utf-8\";\n.a{color:red;width:5px;}\n@media screen{.b{x:1;}\n.c{y:2;z:3;}}\n" ++
  "@-webkit-keyframes spin{from{top:0;}\nto{top:10px;left:1px;}}\n@font-face{font-family:F;src:url(f.woff);}\n"

private theorem exTree_full : AtRule.FullList exTree = true := by decide
private theorem exTree_noVT : BodiesNoVT exTree = true ∧ noVTList exTree = true := by decide +kernel

example : AtRule.FullList exTree = true := exTree_full
example : BodiesNoVT exTree = true ∧ noVTList exTree = true := exTree_noVT
/-- the formatter side, evaluated in the kernel -/
example : Print.fmtNodes (Print.fills minOpts) (embedAP exTree) = exText := by decide +kernel

/-- the at-rule side: the kernel does not reduce `String.trimAscii`; it is replaced by its list
    characterisation `trimAscii_eq` (two rewrites, one per nested body) and the rest is evaluated -/
example : AtRule.printList exTree = exText := by
  simp only [exTree, AtRule.printList, AtRule.printItem, trimAscii_eq]
  decide +kernel

/-- X9 on `exTree` -/
example : AtRule.printList exTree = Print.fmtNodes (Print.fills minOpts) (embedAP exTree) :=
  atrule_print_is_formatter exTree exTree_full exTree_noVT.1

/-- `BodiesNoVT` is not superfluous: a statement "\x0b" inside `@media` is kept by the at-rule printer
    and stripped by the formatter (`FullList` holds) -/
example : AtRule.FullList [.media "q" [.stmt "\x0b"]] = true
    ∧ AtRule.printList [.media "q" [.stmt "\x0b"]] = "@media q{\x0b}\n"
    ∧ Print.fmtNodes (Print.fills minOpts) (embedAP [.media "q" [.stmt "\x0b"]]) = "@media q{}\n" := by
  refine ⟨by decide +kernel, ?_, by decide +kernel⟩
  simp only [AtRule.printList, AtRule.printItem, trimAscii_eq]
  decide +kernel

/-- … while \x0b at top level, or in the prelude of a nested block, is harmless -/
example : BodiesNoVT [.stmt "\x0b", .media "\x0c" [.rule "a" [⟨"b", "c"⟩]]] = true
    ∧ noVTList [.stmt "\x0b", .media "\x0c" [.rule "a" [⟨"b", "c"⟩]]] = false := by decide +kernel

/-- `FullList` is not superfluous: the formatter prints nothing for an empty rule, `AtRule.printItem`
    prints `a{}` -/
example : AtRule.FullList [.rule "a" []] = false
    ∧ BodiesNoVT [.rule "a" []] = true
    ∧ AtRule.printList [.rule "a" []] = "a{}\n"
    ∧ Print.fmtNodes (Print.fills minOpts) (embedAP [.rule "a" []]) = "" := by decide +kernel

end Lessm.Cross
