/-
  C05  Mixins: a call produces the declarations and nested rules of the mixin's body, placed at the
       call site under the caller's selector, with each parameter replaced by the corresponding
       argument (or its default) and `@arguments` by the argument list; calls before the definition,
       calls inside other mixins and guarded recursion included.  A parametric definition emits no
       CSS; an ordinary rule used as a mixin is still emitted.

  Vocabulary (Lessm/Spec/MixinSpec.lean):
    `rulesOf sheet`                     the top-level rules `(selector, body)` in order
    `compileRule tbl gas sel body`      what one top-level rule contributes, the table being given
    `compileRules tbl gas rules`        the concatenation over the rules (first error wins)
    `callDepth inExp depth`             `depth + 1` inside an expansion, `0` elsewhere
    `expandCall tbl gas d sc me name args'`  the body chosen for a call, evaluated at the call site
    `substValue fr`, `substArg fr`, `substItems fr`   textual replacement of the names bound in `fr`
    `LitScope sc`                       every value bound in `sc` consists of literal tokens
    `ClosedBodies tbl fr`               bodies of the table are closed over their own parameters and
                                        `@arguments`, defaults are literal, plain rules mention no
                                        variable; a guard reached from a table body compares only names
                                        bound by the calling expansion, or names not bound in `fr`, or
                                        names that the (literal) arguments of the call bind to numbers
    `inlineItemsOK tbl fr body`         arguments in `body` are `@n`, `@n + k` or literal;
                                        `@n + k` with `@n` in `fr` has a number there; a guard reached
                                        from `body` compares names not bound in `fr`, or names that
                                        the (substituted, literal) arguments bind to numbers

  `C05_rule_still_emitted`, `C05_call_unfold` and `C05_call_mixin` stand in
  Lessm/Lemmas/MixinLemmas.lean, where later lemmas use them.
-/
import Lessm.Lemmas.MixinLemmas

namespace Lessm.Mixin
open Lessm.Vars Lessm.Sel

/-! ### definitions are silent, their position is irrelevant -/

/-- **C05_silent_and_order**: the output depends on the sheet only through its table and the list of
    its rules. -/
theorem C05_silent_and_order (gas : Nat) (s1 s2 : List Top) (ht : buildTable s1 = buildTable s2)
    (hr : rulesOf s1 = rulesOf s2) : compile gas s1 = compile gas s2 := by
  rw [C05_rule_still_emitted, C05_rule_still_emitted, ht, hr]

/-- the output depends on the sheet only through the sequence of its definitions and the sequence of
    its rules: how the two are interleaved is irrelevant -/
theorem compile_congr_filter (gas : Nat) (s1 s2 : List Top)
    (hD : s1.filter Top.isDef = s2.filter Top.isDef)
    (hR : s1.filter Top.isRule = s2.filter Top.isRule) : compile gas s1 = compile gas s2 := by
  apply C05_silent_and_order
  · rw [(buildTable_rulesOf_filter s1).1, (buildTable_rulesOf_filter s2).1, hD, hR]
  · rw [(buildTable_rulesOf_filter s1).2, (buildTable_rulesOf_filter s2).2, hR]

/-- **C05_def_after_use**: moving all definitions behind all rules changes nothing (calls before the
    definition see it). -/
theorem C05_def_after_use (gas : Nat) (ds rs : List Top) (hd : ∀ t ∈ ds, t.isDef = true)
    (hr : ∀ t ∈ rs, t.isRule = true) : compile gas (ds ++ rs) = compile gas (rs ++ ds) := by
  have e1 : ds.filter Top.isRule = [] := by simpa [Top.isRule_eq] using hd
  have e2 : rs.filter Top.isDef = [] := by simpa [Top.isRule_eq] using hr
  apply compile_congr_filter <;> simp [List.filter_append, e1, e2]

/-- **C05_silent**: a sheet of definitions only compiles to nothing. -/
theorem C05_silent (gas : Nat) (ds : List Top) (hd : ∀ t ∈ ds, t.isDef = true) :
    compile gas ds = .ok [] := by
  have e : ds.filter Top.isRule = [] := by simpa [Top.isRule_eq] using hd
  rw [C05_rule_still_emitted, (buildTable_rulesOf_filter ds).2, e]; rfl

/-! ### parameter binding: arguments in order, then defaults; a parameter left with neither makes the
definition inapplicable -/

/-- **C05_bind_default**: the parameters covered by arguments are bound to them, the remaining ones
    are bound as with no argument at all (no side condition). -/
theorem C05_bind_default (ps : List (String × Option Value)) (as : List Value) :
    bindParams ps as =
      (bindParams (ps.drop as.length) []).map (fun f => (ps.map Prod.fst).zip as ++ f) := by
  induction ps generalizing as with
  | nil => simp [bindParams]
  | cons pd ps ih =>
    obtain ⟨p, d⟩ := pd
    cases as with
    | nil => simp
    | cons a as =>
      simp only [bindParams, ih as, List.length_cons, List.drop_succ_cons, List.map_cons,
        List.zip_cons_cons, Option.map_map]
      rfl

/-- **C05_bind_full**: with at least as many arguments as parameters, parameter `i` is bound to
    argument `i` (surplus arguments are dropped). -/
theorem C05_bind_full (ps : List (String × Option Value)) (as : List Value)
    (h : ps.length ≤ as.length) : bindParams ps as = some ((ps.map Prod.fst).zip as) := by
  rw [C05_bind_default, List.drop_eq_nil_of_le h]
  simp [bindParams]

/-- **C05_bind_defaults_only**: without arguments every parameter takes its default. -/
theorem C05_bind_defaults_only (ps : List (String × Option Value))
    (h : ∀ p ∈ ps, p.2.isSome = true) :
    bindParams ps [] = some (ps.map (fun p => (p.1, p.2.getD []))) := by
  induction ps with
  | nil => rfl
  | cons pd ps ih =>
    obtain ⟨p, d⟩ := pd
    cases d with
    | none => have := h _ List.mem_cons_self; simp at this
    | some d => simp [bindParams, ih (fun q hq => h q (List.mem_cons_of_mem _ hq))]

/-- **C05_bind_none_iff**: binding fails exactly when a parameter beyond the arguments has no
    default. -/
theorem C05_bind_none_iff (ps : List (String × Option Value)) (as : List Value) :
    bindParams ps as = none ↔ ∃ p ∈ ps.drop as.length, p.2 = none := by
  rw [C05_bind_default, Option.map_eq_none_iff, bindParams_nil_none_iff]

/-- **C05_arguments**: in the frame of an expansion `@arguments` is the argument list joined by
    blanks, provided arguments were given and no parameter is itself called `arguments` (the entry is
    appended after the parameters, and the first entry of a name wins). -/
theorem C05_arguments (sc : Scope) (d : MixinDef) (args : List Value) (fr : Frame)
    (h : tryMixin sc d args = some fr) (hne : args ≠ [])
    (hp : "arguments" ∉ d.params.map Prod.fst) :
    Frame.get fr "arguments" = some (intersperseSp args) := by
  obtain ⟨f0, hb, rfl⟩ := tryMixin_some h
  rw [Frame.get_append, (Frame.get_none_iff f0 _).mpr (by rwa [bindParams_names hb])]
  simp [Frame.get, hne]

/-- **C05_frame_names**: the frame of an expansion binds exactly the parameters, in order, then
    `arguments`. -/
theorem C05_frame_names (sc : Scope) (d : MixinDef) (args : List Value) (fr : Frame)
    (h : tryMixin sc d args = some fr) :
    fr.map Prod.fst = d.params.map Prod.fst ++ ["arguments"] :=
  tryMixin_names h

/-! ### a call beyond the depth limit is an error, not a deeper expansion -/

/-- **C05_depth_limit**: the runaway-recursion cutoff: a call met inside an expansion at counter 64
    would get counter 65, and is a `NameError`. -/
theorem C05_depth_limit (tbl : Table) (gas : Nat) (sc : Scope) (me : List Sel) (name : String)
    (args : List Arg) (rest : List Item) :
    evalItems tbl (gas + 1) 64 true sc me (.call name args :: rest) = .error (.nameError name) := by
  rw [C05_call_unfold]; rfl

/-! ### parameters are replaced textually by the arguments -/

/-- **C05_expand_subst**: substitution of a value under a literal frame is textual replacement of
    the names the frame binds, followed by substitution in the rest of the scope.  Any fuel ≥ 1 (the
    model uses 64); with fuel 0 the left side reports `hang` on `@p` while the right side may already
    be literal. -/
theorem C05_expand_subst (fr : Frame) (sc : Scope) (fuel : Nat) (v : Value)
    (hl : LitScope (fr :: sc) = true) :
    expand (fr :: sc) (fuel + 1) v = expand sc (fuel + 1) (substValue fr v) := by
  have h := hl
  rw [LitScope_cons, Bool.and_eq_true] at h
  exact expand_subst (Splits.base fr sc) h.1 hl h.2 fuel v

/-- **C05_inline** (main): evaluating a body in a frame `fr` of its own, on top of the caller's scope,
    is evaluating, directly in the caller's scope, the body in which every `@p` bound by `fr` has been
    replaced by its value (declarations, call arguments, nested rules; `@p + k` by the computed
    number) — same declarations, same rules, same errors, for every gas and depth.
    Hypotheses, all decidable:
      `hl`  the frame and the caller's scope hold literal values only;
      `hc`  `ClosedBodies`: the bodies stored in the table (which are not rewritten: the callee is
            looked up at evaluation time on both sides) never read below their own frame;
      `hb`  `inlineItemsOK`: see the header.
    `GuardsOwn tbl` alone (each guard compares the definition's own parameters) is not enough: when
    the value bound to the compared parameter is not a number, `condHolds` falls back on a lookup in
    the caller's scope and finds `fr` on the left but not on the right (example below). -/
theorem C05_inline (tbl : Table) (gas depth : Nat) (inExp : Bool) (fr : Frame) (sc : Scope)
    (me : List Sel) (body : List Item)
    (hl : LitScope (fr :: sc) = true) (hc : ClosedBodies tbl fr = true)
    (hb : inlineItemsOK tbl fr body = true) :
    evalItems tbl gas depth inExp (fr :: sc) me body =
      evalItems tbl gas depth inExp sc me (substItems fr body) := by
  have h := hl
  rw [LitScope_cons, Bool.and_eq_true] at h
  exact evalItems_inline hc h.1 gas depth inExp (fr :: sc) sc me body (Splits.base fr sc) hl h.2 hb

/-- **C05_call_inline**: a call whose first applicable definition is `m`, with frame `fr`, evaluates
    to the body of `m` with the parameters replaced, at the call site, under the caller's selector. -/
theorem C05_call_inline (tbl : Table) (gas depth : Nat) (inExp : Bool) (sc : Scope) (me : List Sel)
    (name : String) (args : List Arg) (args' : List Value) (m : MixinDef) (fr : Frame)
    (hd : callDepth inExp depth ≤ 64) (ha : args.mapM (evalArg sc) = .ok args')
    (hm : firstApplicable sc args' (tbl.candidates name) = some (m, fr))
    (hl : LitScope (fr :: sc) = true) (hc : ClosedBodies tbl fr = true)
    (hb : inlineItemsOK tbl fr m.body = true) :
    evalItems tbl (gas + 1) depth inExp sc me [.call name args] =
      evalItems tbl gas (callDepth inExp depth) true sc me (substItems fr m.body) := by
  rw [C05_call_mixin tbl gas depth inExp sc me name args args' m fr hd ha hm,
    C05_inline tbl gas _ true fr sc me m.body hl hc hb]

/-- **C05_closed**: a body closed over the names `N` evaluates alike in two literal scopes that
    agree on `N` and on every name `fr` does not bind (what makes callee bodies independent of the
    frames below their own). -/
theorem C05_closed (tbl : Table) (fr : Frame) (gas depth : Nat) (inExp : Bool) (Y1 Y2 : Scope)
    (me : List Sel) (items : List Item) (N : List String) (hc : ClosedBodies tbl fr = true)
    (h1 : LitScope Y1 = true) (h2 : LitScope Y2 = true)
    (hN : ∀ n ∈ N, lookup Y1 n = lookup Y2 n)
    (hF : ∀ p, Frame.get fr p = none → lookup Y1 p = lookup Y2 p)
    (hi : closedItems tbl fr N items = true) :
    evalItems tbl gas depth inExp Y1 me items = evalItems tbl gas depth inExp Y2 me items :=
  evalItems_closed hc gas depth inExp Y1 Y2 me items N h1 h2 hN hF hi

/-! ### non-vacuity

`evalItems` is defined by well-founded recursion, which the kernel does not unfold; concrete
evaluations go through `evalF` / `compileRulesF` (Lessm/Lemmas/MixinLemmas.lean), structurally
recursive evaluators proved to return the value of `evalItems` / `compile` whenever they return one
(`evalF_sound`, `compile_of_F`).  The key of a plain rule in the table is computed with
`String.trimAscii`, which the kernel does not reduce either: the example of a rule used as a mixin
gives its table explicitly. -/

/-- the definitions and the sheet of the examples (`sheet1`): guarded recursion, a call before the
    definition, a default, `@arguments`, a nested rule in a mixin, a mixin calling another one -/
private def loopDef : MixinDef :=
  { params := [("i", none)], guard := [[⟨false, "i", .gt, 0⟩]],
    body := [.decl "w" [.ref "i"], .call ".loop" [.arith "i" (-1)]] }

private def boxDef : MixinDef :=
  { params := [("a", none), ("b", some [.lit "2px"])], guard := [],
    body := [.decl "m" [.ref "a", .lit " ", .ref "b"], .decl "all" [.ref "arguments"],
             .rule [".in"] [.decl "p" [.ref "b"]], .call ".loop" [.val [.ref "a"]]] }

private def sheet1 : List Top :=
  [ .rule [".r"] [.call ".loop" [.val [.lit "2"]], .decl "z" [.lit "9"]],
    .mdef ".loop" loopDef,
    .mdef ".box" boxDef,
    .rule [".s"] [.call ".box" [.val [.lit "1"]], .decl "c" [.lit "red"]] ]

private def out1 : List OutRule :=
  [ ⟨[[".r"]], [("w", "2"), ("w", "1"), ("z", "9")]⟩,
    ⟨[[".s"]], [("m", "1 2px"), ("all", "1"), ("w", "1"), ("c", "red")]⟩,
    ⟨[[".s", " ", ".in"]], [("p", "2px")]⟩ ]

example : compile 10 sheet1 = .ok out1 := compile_of_F 50 _ _ _ (by decide +kernel)

/-- definitions moved to the end or to the front: same output -/
example : compile 10 (sheet1.filter Top.isRule ++ sheet1.filter Top.isDef) = .ok out1 :=
  compile_of_F 50 _ _ _ (by decide +kernel)
example : compile 10 (sheet1.filter Top.isDef ++ sheet1.filter Top.isRule) = .ok out1 :=
  compile_of_F 50 _ _ _ (by decide +kernel)
example : (∀ t ∈ sheet1.filter Top.isDef, t.isDef = true) ∧
    (∀ t ∈ sheet1.filter Top.isRule, t.isRule = true) := by decide +kernel

/-- a plain rule used as a mixin: its body is evaluated at the call site, in the caller's frame -/
private def tblP : Table := ⟨[], [(".plain", [.decl "c" [.lit "red"], .rule [".n"] [.decl "d" [.lit "1"]]])]⟩

example : evalItems tblP 5 0 false [[], []] [[".s"]] [.call ".plain" [], .decl "e" [.lit "2"]]
    = .ok ([("c", "red"), ("e", "2")], [⟨[[".s", " ", ".n"]], [("d", "1")]⟩]) :=
  evalF_sound 50 (by decide +kernel)

private def tbl1 : Table := buildTable sheet1
private def tblL : Table :=
  buildTable [.rule [".r"] [.call ".loop" [.val [.lit "3"]], .decl "z" [.lit "9"]], .mdef ".loop" loopDef]
private def fr3 : Frame := [("i", [.lit "3"]), ("arguments", [.lit "3"])]

example : tbl1.mixins = [(".loop", loopDef), (".box", boxDef)] := by decide +kernel

/-- the hypotheses of `C05_inline` / `C05_call_inline` hold for guarded recursion -/
private theorem fr3_hyps : LitScope (fr3 :: [[], []]) = true ∧ ClosedBodies tblL fr3 = true ∧
    inlineItemsOK tblL fr3 loopDef.body = true ∧ GuardsOwn tblL = true := by decide +kernel
example : LitScope (fr3 :: [[], []]) = true ∧ ClosedBodies tblL fr3 = true ∧
    inlineItemsOK tblL fr3 loopDef.body = true ∧ GuardsOwn tblL = true := fr3_hyps

private theorem fr3_subst : substItems fr3 loopDef.body =
    [.decl "w" [.lit "3"], .call ".loop" [.val [.lit "2"]]] := by decide +kernel
example : substItems fr3 loopDef.body =
    [.decl "w" [.lit "3"], .call ".loop" [.val [.lit "2"]]] := fr3_subst

private theorem fr3_call : [Arg.val [.lit "3"]].mapM (evalArg [[], []]) = .ok [[.lit "3"]] ∧
    firstApplicable [[], []] [[.lit "3"]] (tblL.candidates ".loop") = some (loopDef, fr3) := by
  decide +kernel
example : [Arg.val [.lit "3"]].mapM (evalArg [[], []]) = .ok [[.lit "3"]] ∧
    firstApplicable [[], []] [[.lit "3"]] (tblL.candidates ".loop") = some (loopDef, fr3) := fr3_call

private theorem fr3_eval : evalItems tblL 9 1 true (fr3 :: [[], []]) [[".r"]] loopDef.body
      = .ok ([("w", "3"), ("w", "2"), ("w", "1")], []) :=
  evalF_sound 50 (by decide +kernel)
example : evalItems tblL 9 1 true (fr3 :: [[], []]) [[".r"]] loopDef.body
      = .ok ([("w", "3"), ("w", "2"), ("w", "1")], []) := fr3_eval
/-- `C05_inline` applied -/
example : evalItems tblL 9 1 true [[], []] [[".r"]] (substItems fr3 loopDef.body)
      = .ok ([("w", "3"), ("w", "2"), ("w", "1")], []) :=
  (C05_inline tblL 9 1 true fr3 [[], []] [[".r"]] loopDef.body fr3_hyps.1 fr3_hyps.2.1 fr3_hyps.2.2.1).symm.trans
    fr3_eval

/-- `C05_call_inline` applied: `.r { .loop(3) }` is `.r { w: 3; .loop(2) }` -/
example : evalItems tblL 10 0 false [[], []] [[".r"]] [.call ".loop" [.val [.lit "3"]]]
    = evalItems tblL 9 0 true [[], []] [[".r"]]
        [.decl "w" [.lit "3"], .call ".loop" [.val [.lit "2"]]] :=
  fr3_subst ▸ C05_call_inline tblL 9 0 false [[], []] [[".r"]] ".loop" [.val [.lit "3"]] [[.lit "3"]]
    loopDef fr3 (by decide) fr3_call.1 fr3_call.2 fr3_hyps.1 fr3_hyps.2.1 fr3_hyps.2.2.1

/-- … and for a mixin with a default, `@arguments`, a nested rule and a call of the guarded mixin -/
private def frBox : Frame :=
  [("a", [.lit "1"]), ("b", [.lit "2px"]), ("arguments", [.lit "1"])]

example : firstApplicable [[], []] [[.lit "1"]] (tbl1.candidates ".box") = some (boxDef, frBox) := by
  decide +kernel

example : LitScope (frBox :: [[], []]) = true ∧ ClosedBodies tbl1 frBox = true ∧
    inlineItemsOK tbl1 frBox boxDef.body = true := by decide +kernel

example : substItems frBox boxDef.body =
    [.decl "m" [.lit "1", .lit " ", .lit "2px"], .decl "all" [.lit "1"],
     .rule [".in"] [.decl "p" [.lit "2px"]], .call ".loop" [.val [.lit "1"]]] := by
  decide +kernel

/-- `ClosedBodies` looks at the whole table: with `.box` in it (whose body calls `.loop` with an
    argument that is not `.box`'s own `@i`) and a frame binding `@i`, the guard of `.loop` might read
    that frame, and the condition is refused. -/
example : ClosedBodies tbl1 fr3 = false := by decide +kernel

/-- the depth limit: an unguarded self-call runs into the cutoff, not into the interpreter stack,
    when there is gas enough -/
example : compile 100 [.mdef ".f" ⟨[], [], [.call ".f" []]⟩, .rule [".r"] [.call ".f" []]]
    = .error (.nameError ".f") := compile_of_F 200 _ _ _ (by decide +kernel)
example : compile 20 [.mdef ".f" ⟨[], [], [.call ".f" []]⟩, .rule [".r"] [.call ".f" []]]
    = .error .crash := compile_of_F 200 _ _ _ (by decide +kernel)
/-- the counter is kept through a nested rule of an expanded body: recursion through `.x { .f(); }`
    runs into the cutoff too -/
example : compile 200 [.mdef ".f" ⟨[], [], [.rule [".x"] [.call ".f" []]]⟩, .rule [".r"] [.call ".f" []]]
    = .error (.nameError ".f") := compile_of_F 400 _ _ _ (by decide +kernel)

/-- binding: defaults, missing argument, surplus argument -/
example : bindParams [("a", none), ("b", some [.lit "2"])] [[.lit "1"]]
    = some [("a", [.lit "1"]), ("b", [.lit "2"])] := by decide +kernel
example : bindParams [("a", none), ("b", none)] [[.lit "1"]] = none := by decide +kernel
example : bindParams [("a", none)] [[.lit "1"], [.lit "2"]] = some [("a", [.lit "1"])] := by
  decide +kernel

/-- `GuardsOwn` is not enough for `C05_inline`: `.m(@a) when (@a > 0) { w: 1 }` called as `.m(foo)`
    inside a frame binding `@a: 5`.  The callee binds `@a` to `foo`, which is not a number, the guard
    falls back on the caller's `@a = 5` and holds; after substitution no `@a` is left to find.
    `inlineItemsOK` rejects the body. -/
private def tblG : Table :=
  ⟨[(".m", ⟨[("a", none)], [[⟨false, "a", .gt, 0⟩]], [.decl "w" [.lit "1"]]⟩)], []⟩
private def frG : Frame := [("a", [.lit "5"])]
private def bodyG : List Item := [.call ".m" [.val [.lit "foo"]]]

example : GuardsOwn tblG = true ∧ LitScope (frG :: [[], []]) = true ∧ ClosedBodies tblG frG = true
    ∧ inlineItemsOK tblG frG bodyG = false := by decide +kernel
example : evalItems tblG 5 0 true (frG :: [[], []]) [] bodyG = .ok ([("w", "1")], []) :=
  evalF_sound 50 (by decide +kernel)
example : evalItems tblG 5 0 true [[], []] [] (substItems frG bodyG) = .ok ([], []) :=
  evalF_sound 50 (by decide +kernel)

/-- a token-list argument with a variable in it is bound unevaluated (`evalArg`), so the callee's
    frame is not literal and the callee reads the caller's frame when it uses the parameter;
    `inlineItemsOK` excludes the shape. -/
example : inlineItemsOK tblG frG [.call ".m" [.val [.ref "a", .lit "px"]]] = false := by
  decide +kernel

/-- `ClosedBodies` is needed: a body of the table that mentions a name it does not bind reads the
    caller's frame (dynamic scoping), which the substitution does not reach. -/
private def tblD : Table := ⟨[(".d", ⟨[], [], [.decl "w" [.ref "a"]]⟩)], []⟩

example : ClosedBodies tblD frG = false ∧ inlineItemsOK tblD frG [.call ".d" []] = true := by
  decide +kernel
example : evalItems tblD 5 0 true (frG :: [[], []]) [] [.call ".d" []] = .ok ([("w", "5")], []) :=
  evalF_sound 50 (by decide +kernel)
example : evalItems tblD 5 0 true [[], []] [] (substItems frG [.call ".d" []])
    = .error (.unknownVar "a") :=
  evalF_sound 50 (by decide +kernel)

end Lessm.Mixin
