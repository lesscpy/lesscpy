/-
  C06  A guarded mixin is applied exactly when its guard is true.
-/
import Lessm.Model.Guard
import Mathlib.Data.Rat.Init

namespace Lessm.Guard

/-- **C06_cmp**: every comparison spelling has its arithmetic meaning, for all rationals. -/
theorem C06_cmp (c : Cmp) (a b : ℚ) : c.eval a b = true ↔ c.holds a b := by
  cases c <;> simp [Cmp.eval, Cmp.holds]

/-- **C06_not**: for each of the five operators that can be written, the stored reversed
    comparison is the negation of the written one. -/
theorem C06_not (c : Cmp) (hc : c ≠ .ne) (a b : ℚ) : (reverseGuard c).eval a b = !(c.eval a b) := by
  cases c
  case ne => exact absurd rfl hc
  all_goals simp only [reverseGuard, Cmp.eval, ← decide_not, Rat.not_lt, Rat.not_le, ge_iff_le, gt_iff_lt, ne_eq]

/-- a well-formed guard: at least one chain, no empty chain, only writable operators -/
def GuardOK (g : Guard) : Prop :=
  g ≠ [] ∧ (∀ ch ∈ g, ch ≠ []) ∧ (∀ ch ∈ g, ∀ c ∈ ch, c.cmp ≠ .ne)

theorem condTok_step (ρ : Nat → ℚ) (c : Cond) (hc : c.cmp ≠ .ne) (flag : Bool) (ts : List GTok) :
    parseGuardsFrom ρ flag (condTok c :: ts) = parseGuardsFrom ρ (flag && condHolds ρ c) ts := by
  unfold condTok condHolds
  cases c.neg <;> simp only [parseGuardsFrom, C06_not c.cmp hc, if_true, if_false, Bool.false_eq_true]

theorem chain_eval (ρ : Nat → ℚ) (ch : List Cond) (hok : ∀ c ∈ ch, c.cmp ≠ .ne)
    (flag : Bool) (rest : List GTok) :
    parseGuardsFrom ρ flag (chainToks ch ++ rest) = parseGuardsFrom ρ (flag && ch.all (condHolds ρ)) rest := by
  fun_induction chainToks ch generalizing flag with
  | case1 => rw [List.nil_append, List.all_nil, Bool.and_true]
  | case2 c =>
    rw [List.cons_append, condTok_step ρ c (hok c List.mem_cons_self), List.all_cons, List.all_nil,
      Bool.and_true, List.nil_append]
  | case3 c cs _ ih =>
    rw [List.cons_append, List.cons_append, condTok_step ρ c (hok c List.mem_cons_self),
      parseGuardsFrom, ih fun x hx => hok x (List.mem_cons_of_mem c hx), Bool.and_assoc, List.all_cons]

/-- **C06**: on every well-formed guard (any number of chains, any chain length, any mix of
    operators and `not`) and every argument assignment the implementation's verdict is the
    declarative one: some chain has all its conditions true. -/
theorem C06 (g : Guard) (ρ : Nat → ℚ) (h : GuardOK g) : passes g ρ = holds g ρ := by
  -- that no chain is empty is not used: an empty chain passes and holds alike
  obtain ⟨hne, -, hok⟩ := h
  unfold passes parseGuards holds
  fun_induction toTokens g with
  | case1 => exact absurd rfl hne
  | case2 ch =>
    rw [← List.append_nil (chainToks ch), chain_eval ρ ch (hok ch List.mem_cons_self), parseGuardsFrom,
      Bool.true_and, List.any_cons, List.any_nil, Bool.or_false]
  | case3 ch rest hrest ih =>
    rw [chain_eval ρ ch (hok ch List.mem_cons_self), Bool.true_and, parseGuardsFrom, List.any_cons,
      ← ih hrest fun c hc => hok c (List.mem_cons_of_mem _ hc)]
    cases ch.all (condHolds ρ) <;> rfl

/-- **C06_and** (and `C06_or` below): corollaries in the property's own words. -/
theorem C06_and (ch : List Cond) (ρ : Nat → ℚ) (h : GuardOK [ch]) :
    passes [ch] ρ = true ↔ ∀ c ∈ ch, condHolds ρ c = true := by
  rw [C06 _ _ h]; simp only [holds, List.any_cons, List.any_nil, Bool.or_false, List.all_eq_true]

theorem C06_or (g : Guard) (ρ : Nat → ℚ) (h : GuardOK g) :
    passes g ρ = true ↔ ∃ ch ∈ g, ∀ c ∈ ch, condHolds ρ c = true := by
  rw [C06 _ _ h]; simp only [holds, List.any_eq_true, List.all_eq_true]

/-- **C06_excl**: among same-named mixins with pairwise exclusive guards, the one whose guard
    holds is the one applied, wherever it stands in the definition order. -/
theorem C06_excl {β} (ms : List (Guard × β)) (ρ : Nat → ℚ)
    (hok : ∀ m ∈ ms, GuardOK m.1)
    (i : Nat) (hi : i < ms.length)
    (hhold : holds (ms[i]).1 ρ = true)
    (hexcl : ∀ j (hj : j < ms.length), j ≠ i → holds (ms[j]).1 ρ = false) :
    firstMatch ms ρ = some (ms[i]).2 := by
  induction ms generalizing i with
  | nil => exact absurd hi (Nat.not_lt_zero i)
  | cons m rest ih =>
    obtain ⟨g, b⟩ := m
    have hp := C06 g ρ (hok (g, b) List.mem_cons_self)
    cases i with
    | zero => rw [firstMatch, hp, if_pos (show holds g ρ = true from hhold)]; rfl
    | succ k =>
      have h0 : holds g ρ = false := hexcl 0 (Nat.succ_pos _) (Nat.succ_ne_zero k).symm
      rw [firstMatch, hp, h0, if_neg Bool.false_ne_true]
      exact ih (fun m hm => hok m (List.mem_cons_of_mem _ hm)) k (Nat.lt_of_succ_lt_succ hi) hhold
        (fun j hj hne => hexcl (j + 1) (Nat.succ_lt_succ hj) (fun e => hne (Nat.succ.inj e)))

/-! non-vacuity: a comma list of and-chains with `not`, evaluated on concrete arguments -/
def exGuard : Guard :=
  [[⟨false, .param 0, .gt, .lit 3⟩, ⟨false, .param 0, .lt, .lit 10⟩], [⟨true, .param 0, .eq, .lit 20⟩]]
example : GuardOK exGuard := by unfold GuardOK; decide +kernel
example : passes exGuard (fun _ => 5) = true := by decide +kernel
example : passes exGuard (fun _ => 20) = false := by decide +kernel
example : passes exGuard (fun _ => 25) = true := by decide +kernel

end Lessm.Guard
