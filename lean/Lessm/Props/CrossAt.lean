/-
  CrossAt  The at-rule model agrees with the media model where their fragments overlap.

  `Lessm.AtRule` and `Lessm.Media` both speak about `@media` blocks, each tied to the code on its own
  (C19 and C07).  The theorem below ties them to each other.

  Vocabulary (`declAM`, `embedAM`, `obsAList`, `plainOne`, `commonAM`): Lessm/Lemmas/CrossAtLemmas.lean.

  Why the restrictions (they are properties of the models, not of the proof):
    * AtRule knows a selector as one opaque string; Media runs `identParse` over it.  `plainOne` is the
      shape that `identParse none [s]` returns as `[[s]]`.  The blank has to be excluded on top of
      `plainTok`: `identParse none [" "] = [[]]` (example below).
    * AtRule keeps an `@media` inside an `@media` nested, Media merges the two into `a and b` as lesscpy
      does (example below); AtRule's subject is what stands NEXT to `@media`, not nesting.
    * statements, keyframes and declaration blocks do not exist in Media.
-/
import Lessm.Lemmas.CrossAtLemmas

namespace Lessm.Cross
open Lessm.Sel

/-- **X6**: AtRule agrees with Media on their common fragment.  For every value evaluator `ev` and every
    sheet of `commonAM`: evaluating the sheet with the at-rule model (rules without declarations and
    `@media` blocks left empty are dropped, values evaluated by `ev`) and observing the result as
    (media context, selector list, declarations) triples gives exactly what the media model observes on
    the embedded sheet — the same rules, in the same order, under the same media context. -/
theorem atrule_agrees_with_media (ev : String → String) (sheet : List AtRule.Item)
    (hc : commonAM false sheet = true) :
    obsAList [] (AtRule.evalList ev sheet) = Media.observe (embedAM ev sheet) := by
  rw [Media.observe_eq, spec_commonAM ev sheet hc]

/-! ### non-vacuity: both sides evaluated in the kernel -/

/-- `.a { x:1; y:2 }  .e { }  @media screen { .b { z:3 }  .e { }  #c { w:4; v:5 } }  @media print { .e { } }
    .d { k:0 }` -/
private def sheetA : List AtRule.Item :=
  [ .rule ".a" [⟨"x", "1"⟩, ⟨"y", "2"⟩],
    .rule ".e" [],
    .media "screen" [.rule ".b" [⟨"z", "3"⟩], .rule ".e" [], .rule "#c" [⟨"w", "4"⟩, ⟨"v", "5"⟩]],
    .media "print" [.rule ".e" []],
    .rule ".d" [⟨"k", "0"⟩] ]

/-- a value evaluator that is not the identity -/
private def evA (v : String) : String := v ++ "px"

private def obsA : List Media.Triple :=
  [ ⟨[], [[".a"]], [⟨"x", "1px"⟩, ⟨"y", "2px"⟩]⟩,
    ⟨[["screen"]], [[".b"]], [⟨"z", "3px"⟩]⟩,
    ⟨[["screen"]], [["#c"]], [⟨"w", "4px"⟩, ⟨"v", "5px"⟩]⟩,
    ⟨[], [[".d"]], [⟨"k", "0px"⟩]⟩ ]

example : commonAM false sheetA = true := by decide +kernel

/-- X6 on `sheetA`: the empty rules and the `@media print` block holding only an empty rule are gone on
    both sides -/
example : obsAList [] (AtRule.evalList evA sheetA) = obsA
    ∧ Media.observe (embedAM evA sheetA) = obsA := by decide +kernel

/-- what AtRule itself returns: a tree, the surviving `@media` block still a block -/
example : AtRule.evalList id sheetA =
    [ .rule ".a" [⟨"x", "1"⟩, ⟨"y", "2"⟩],
      .media "screen" [.rule ".b" [⟨"z", "3"⟩], .rule "#c" [⟨"w", "4"⟩, ⟨"v", "5"⟩]],
      .rule ".d" [⟨"k", "0"⟩] ] := rfl

/-- `inMedia` is not superfluous: an `@media` inside an `@media` stays nested in AtRule and is merged
    into one `a and b` block by Media -/
example :
    commonAM false [.media "a" [.media "b" [.rule ".x" [⟨"p", "1"⟩]]]] = false
    ∧ obsAList [] (AtRule.evalList id [.media "a" [.media "b" [.rule ".x" [⟨"p", "1"⟩]]]])
        = [⟨[["a"], ["b"]], [[".x"]], [⟨"p", "1"⟩]⟩]
    ∧ Media.observe (embedAM id [.media "a" [.media "b" [.rule ".x" [⟨"p", "1"⟩]]]])
        = [⟨[["a", "and", "b"]], [[".x"]], [⟨"p", "1"⟩]⟩] := by decide +kernel

/-- `s ≠ " "` in `plainOne` is not superfluous: the blank is a `plainTok`, and `Identifier.parse`
    filters a lone blank away -/
example :
    plainTok " " = true ∧ plainOne " " = false
    ∧ obsAList [] (AtRule.evalList id [.rule " " [⟨"p", "1"⟩]]) = [⟨[], [[" "]], [⟨"p", "1"⟩]⟩]
    ∧ Media.observe (embedAM id [.rule " " [⟨"p", "1"⟩]]) = [⟨[], [[]], [⟨"p", "1"⟩]⟩] := by
  decide +kernel

/-- `plainTok` is not superfluous: a selector string that is a comma, a combinator or `*` is rewritten by
    `Identifier.parse` -/
example :
    Media.observe (embedAM id [.rule "," [⟨"p", "1"⟩]]) = [⟨[], [[], []], [⟨"p", "1"⟩]⟩]
    ∧ Media.observe (embedAM id [.rule ">" [⟨"p", "1"⟩]]) = [⟨[], [["?>?"]], [⟨"p", "1"⟩]⟩]
    ∧ Media.observe (embedAM id [.rule "*" [⟨"p", "1"⟩]]) = [⟨[], [["* "]], [⟨"p", "1"⟩]⟩] := by
  decide +kernel

end Lessm.Cross
