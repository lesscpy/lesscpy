/-
  Property C14 – "Importing a .less file (extension optional, path relative to the importing file,
  transitively) gives the same CSS as pasting that file's text in place of the @import statement: its
  rules are emitted at that position and its variables and mixins are usable by the importer.  An
  @import of anything else (a .css path or url(), with or without a media list) is copied to the
  output unchanged at its position, and a missing .less file is reported, not ignored."

  About `Lessm/Model/Import.lean`.  In lesscpy the units of an imported file take the place of the
  import statement in the unit list of the importer before anything is evaluated; the rest of the
  compiler (scoping, variables, mixins, printing) is a function `post` of the final unit list.  So
  "its variables and mixins are usable by the importer" is "the unit list is the pasted one", for
  every `post`.

    1  C14_inline      the unit list a parser produces is the pasted text `paste`, the register is the
                       list of missing files — if the imports are at most `budget` deep
    2  C14_post        the CSS of the split tree is `post` of the pasted text; and it is the CSS of the
                       one pasted file
    3  C14_stmt        a non-LESS import is copied unchanged at its position
    4  C14_missing     a missing .less file is reported; no registered error is ever dropped
    5  C14_path        extension optional, relative to the importing file, `..`, LESS or not
    6  C14_twice       importing the same file twice pastes it twice

  Theorems and examples here, with the file trees of the examples (`Ex.*`) and what the kernel
  evaluates about them; the specification (`paste`, `missingOf`, `depthLe`, `allExist`, `pasteU`, `Proper`)
  and the lemmas are in `Lessm/Lemmas/ImportLemmas.lean`, and so is `C14_path_split` (splitting at '/'
  undoes joining with "/"), which the path lemmas there use.
-/
import Lessm.Lemmas.ImportLemmas

namespace Lessm.Imp

namespace Ex

/-- main.less: imports `sub/b` twice (once without, once with extension), a style sheet with a media
    list, a url, and a file that does not exist -/
def main : List Unit' :=
  [.other "@m: 1;",
   .imp "sub/b" "@import \"sub/b\";",
   .imp "x.css" "@import \"x.css\" screen;",
   .other ".m{w:@c}",
   .imp "gone" "@import \"gone\";",
   .imp "sub/b.less" "@import \"sub/b.less\";",
   .imp "http://example.com/a.css" "@import url(http://example.com/a.css);"]

/-- sub/b.less: imports `../c.less`, i.e. c.less next to main.less -/
def b : List Unit' := [.other ".b{}", .imp "../c.less" "@import \"../c.less\";", .other ".b2{}"]

def c : List Unit' := [.other "@c: 2;"]

def files : Files := [(["main.less"], main), (["sub", "b.less"], b), (["c.less"], c)]

/-- the text of main.less with everything pasted -/
def pasted : List String :=
  ["@m: 1;", ".b{}", "@c: 2;", ".b2{}", "@import \"x.css\" screen;", ".m{w:@c}",
   ".b{}", "@c: 2;", ".b2{}", "@import url(http://example.com/a.css);"]

/-- a file importing itself -/
def filesSelf : Files := [(["s.less"], [.imp "s" "@import \"s\";", .other "s{}"])]

/-- a.less imports d/b.less, which imports a file that does not exist -/
def filesDeep : Files :=
  [(["a.less"], [.imp "d/b" "@import \"d/b\";"]),
   (["d", "b.less"], [.other "x", .imp "zz" "@import \"zz\";"])]

/-- What the examples below use about main.less and about sub/b.less in the tree `files`.  One statement,
    because the kernel then evaluates each `paste` once for all its parts. -/
theorem facts :
    (depthLe files 2 ["main.less"] main = true ∧ depthLe files 1 ["main.less"] main = false ∧
      paste files 9 ["main.less"] main = pasted ∧
      missingOf files 9 ["main.less"] main = [.missing ["gone.less"]] ∧
      (paste files 9 ["main.less"] (main.take 2) = ["@m: 1;", ".b{}", "@c: 2;", ".b2{}"] ∧
        paste files 9 ["main.less"] (main.drop 3) =
          [".m{w:@c}", ".b{}", "@c: 2;", ".b2{}", "@import url(http://example.com/a.css);"])) ∧
    (paste files 8 ["sub", "b.less"] b = [".b{}", "@c: 2;", ".b2{}"] ∧
      depthLe files 9 ["sub", "b.less"] b = true ∧ allExist files 9 ["sub", "b.less"] b = true ∧
      (paste files 9 ["sub", "b.less"] b).length = 3) := by
  decide +kernel

/-- the paths written in main.less, each with what `isLess`, `resolve` and `findFile` make of it -/
structure Paths : Prop where
  subb : isLess "sub/b" = true ∧ resolve ["main.less"] "sub/b" = ["sub", "b.less"] ∧
    findFile files (resolve ["main.less"] "sub/b") = some b
  subbLess : isLess "sub/b.less" = true ∧ resolve ["main.less"] "sub/b.less" = ["sub", "b.less"]
  notLess : isLess "x.css" = false ∧ isLess "http://example.com/a.css" = false
  gone : isLess "gone" = true ∧ findFile files (resolve ["main.less"] "gone") = none
  goneAt : resolve ["main.less"] "gone" = ["gone.less"]

theorem paths : Paths :=
  ⟨by decide +kernel, by decide +kernel, by decide +kernel, by decide +kernel, by decide +kernel⟩

/-- the same for the two paths of `filesDeep` -/
structure PathsDeep : Prop where
  db : isLess "d/b" = true ∧
    findFile filesDeep (resolve ["a.less"] "d/b") = some [.other "x", .imp "zz" "@import \"zz\";"]
  zz : isLess "zz" = true ∧ findFile filesDeep (resolve (resolve ["a.less"] "d/b") "zz") = none
  zzAt : resolve (resolve ["a.less"] "d/b") "zz" = ["d", "zz.less"]

theorem pathsDeep : PathsDeep := ⟨by decide +kernel, by decide +kernel, by decide +kernel⟩

end Ex

/-! ## 1 the unit list is the pasted text -/

/-- **C14_paste_spec**: what the specification `paste` is, read as equations: a unit other than an
    import is its text; a non-LESS import is the statement as written; a LESS import of an existing
    file is the pasted text of that file's units (its own relative imports now taken from that file);
    a LESS import of a missing file contributes nothing; and the same for the register `missingOf`
    (exactly the missing files). -/
theorem C14_paste_spec (files : Files) (d : Nat) (cur : Path) :
    paste files d cur [] = [] ∧
    (∀ t r, paste files d cur (.other t :: r) = t :: paste files d cur r) ∧
    (∀ ip raw r, isLess ip = false →
      paste files d cur (.imp ip raw :: r) = raw :: paste files d cur r) ∧
    (∀ ip raw r us, isLess ip = true → findFile files (resolve cur ip) = some us →
      paste files (d + 1) cur (.imp ip raw :: r) =
        paste files d (resolve cur ip) us ++ paste files (d + 1) cur r) ∧
    (∀ ip raw r, isLess ip = true → findFile files (resolve cur ip) = none →
      paste files d cur (.imp ip raw :: r) = paste files d cur r) ∧
    (∀ ip raw r, isLess ip = true → findFile files (resolve cur ip) = none →
      missingOf files d cur (.imp ip raw :: r) =
        .missing (resolve cur ip) :: missingOf files d cur r) :=
  ⟨by cases d <;> rfl, fun t r => by cases d <;> rfl,
   fun ip raw r h => by cases d <;> simp [paste, pasteWith, h],
   fun ip raw r us h hf => by simp [paste, pasteWith, h, hf],
   fun ip raw r h hf => by cases d <;> simp [paste, pasteWith, h, hf],
   fun ip raw r h hf => by cases d <;> simp [missingOf, missingWith, h, hf]⟩

example : paste Ex.files 8 ["sub", "b.less"] Ex.b = [".b{}", "@c: 2;", ".b2{}"] := Ex.facts.2.1

/-- **C14_inline**: if every chain of LESS imports starting in `units` has at most `b` imports
    (`depthLe`), a parser with budget `b` reading the file `cur` produces exactly the text with every
    imported file pasted in place of its import statement, and registers exactly the missing files, in
    traversal order; in particular never `tooDeep`. -/
theorem C14_inline (files : Files) (b : Nat) (cur : Path) (units : List Unit')
    (hd : depthLe files b cur units = true) :
    load files b cur units = (some (paste files b cur units), missingOf files b cur units) ∧
    IErr.tooDeep ∉ (load files b cur units).2 := by
  have h : load files b cur units = (some (paste files b cur units), missingOf files b cur units) := by
    induction b generalizing cur units with
    | zero => rw [load_zero, if_pos (show noImp units = true from hd)]
    | succ b ih =>
      -- on the files consulted the loader of the next level is `paste` / `missingOf` of that level
      obtain ⟨h1, h2, _⟩ := specWith_congr files (subP := subOut files b) (subP' := paste files b)
        (subM := subErrs files b) (subM' := missingOf files b)
        (fun p vs hd => ⟨by rw [subOut, ih p vs hd]; rfl, by simp [subErrs, ih p vs hd], hd⟩)
        cur units hd
      rw [load_succ, paste, missingOf, h1, h2]
  exact ⟨h, by rw [h]; exact tooDeep_not_mem_missingOf files b cur units⟩

/-- **C14_inline_root**: the corollary for a whole file tree (budget 9 = levels 0..9). -/
theorem C14_inline_root (files : Files) (root : Path) (units : List Unit')
    (hroot : findFile files root = some units) (hd : depthLe files 9 root units = true) :
    loadRoot files root = (some (paste files 9 root units), missingOf files 9 root units) ∧
    IErr.tooDeep ∉ (loadRoot files root).2 := by
  simp only [loadRoot, hroot]
  exact C14_inline files 9 root units hd

/-- **C14_paste_fuel**: the specification does not depend on its fuel once the fuel covers the import
    depth (so `paste files 9` above is "the pasted text", not "the text pasted 9 levels deep"). -/
theorem C14_paste_fuel (files : Files) (d k : Nat) (cur : Path) (units : List Unit')
    (hd : depthLe files d cur units = true) :
    paste files (d + k) cur units = paste files d cur units ∧
    missingOf files (d + k) cur units = missingOf files d cur units ∧
    depthLe files (d + k) cur units = true := by
  induction d generalizing cur units with
  | zero =>
    rw [Nat.zero_add]
    cases k with
    | zero => exact ⟨rfl, rfl, hd⟩
    | succ k =>
      -- no import statement at all: `sub` is consulted nowhere
      exact specWith_congr files (subD := fun _ _ => false) (fun _ _ h => Bool.noConfusion h) cur units
        (depthLeWith_of_noImp files _ cur hd)
  | succ d ih =>
    rw [Nat.add_right_comm]
    exact specWith_congr files ih cur units hd

namespace Ex

theorem depth2 : depthLe files 2 ["main.less"] main = true := facts.1.1
theorem depth9 : depthLe files 9 ["main.less"] main = true :=
  (C14_paste_fuel files 2 7 ["main.less"] main depth2).2.2
theorem paste_main : paste files 9 ["main.less"] main = pasted := facts.1.2.2.1
theorem missing_main : missingOf files 9 ["main.less"] main = [.missing ["gone.less"]] :=
  facts.1.2.2.2.1

end Ex

example : paste Ex.files 9 ["main.less"] Ex.main = Ex.pasted := Ex.paste_main
example : missingOf Ex.files 9 ["main.less"] Ex.main = [.missing ["gone.less"]] := Ex.missing_main
/-- the hypothesis holds for the example tree (depth 2) … -/
example : depthLe Ex.files 2 ["main.less"] Ex.main = true := Ex.depth2
example : depthLe Ex.files 9 ["main.less"] Ex.main = true := Ex.depth9
/-- … and not for fewer levels, nor for a file importing itself -/
example : depthLe Ex.files 1 ["main.less"] Ex.main = false := Ex.facts.1.2.1
example : depthLe Ex.filesSelf 9 ["s.less"] [.imp "s" "@import \"s\";"] = false := by decide +kernel
/-- the conclusion, computed through the theorem -/
example : loadRoot Ex.files ["main.less"] = (some Ex.pasted, [.missing ["gone.less"]]) := by
  rw [(C14_inline_root Ex.files ["main.less"] Ex.main rfl Ex.depth9).1, Ex.paste_main, Ex.missing_main]
/-- the fuel does not matter: 2 levels are as good as 9 -/
example : paste Ex.files 9 ["main.less"] Ex.main = paste Ex.files 2 ["main.less"] Ex.main :=
  (C14_paste_fuel Ex.files 2 7 ["main.less"] Ex.main Ex.depth2).1
/-- without the hypothesis `tooDeep` is registered (C20) -/
example : IErr.tooDeep ∈ (loadRoot Ex.filesSelf ["s.less"]).2 := by
  have h1 : isLess "s" = true := by decide +kernel
  have h2 : resolve ["s.less"] "s" = ["s.less"] := by decide +kernel
  simp [loadRoot, Ex.filesSelf, findFile, load_succ, load_zero, missingWith, subErrs, noImp, h1, h2]

/-! ## 2 the CSS of the split tree is the CSS of the pasted text -/

/-- **C14_post**: whatever the rest of the compiler (`post`) is: the result of compiling the root of a
    file tree whose imports are at most 9 deep is `post` of the pasted text; the register holds
    exactly the missing files; nothing is registered if all imported files exist. -/
theorem C14_post {α : Type} (post : List String → α) (files : Files) (root : Path)
    (units : List Unit') (hroot : findFile files root = some units)
    (hd : depthLe files 9 root units = true) :
    compile post files root =
      (some (post (paste files 9 root units)), missingOf files 9 root units) ∧
    (allExist files 9 root units = true →
      compile post files root = (some (post (paste files 9 root units)), [])) := by
  have h : compile post files root =
      (some (post (paste files 9 root units)), missingOf files 9 root units) := by
    simp only [compile, (C14_inline_root files root units hroot hd).1]
  exact ⟨h, fun he => by rw [h, missingOf_of_allExist files 9 root units he]⟩

/-- **C14_post_flat**: "the same CSS as pasting": let `pasteU files 9 root units` be the units of the
    root file with every LESS import statement replaced by the (pasted) units of the file it names.
    It contains no LESS import, its text is `paste …`, and compiling it as the only file `root'` of a
    file tree gives the same output as compiling the split tree — for every `post`; the complete
    result is the same if all imported files exist. -/
theorem C14_post_flat {α : Type} (post : List String → α) (files : Files) (root root' : Path)
    (units : List Unit') (hroot : findFile files root = some units)
    (hd : depthLe files 9 root units = true) :
    nonLessOnly (pasteU files 9 root units) = true ∧
    (pasteU files 9 root units).map Unit'.text = paste files 9 root units ∧
    (compile post files root).1 = (compile post [(root', pasteU files 9 root units)] root').1 ∧
    (allExist files 9 root units = true →
      compile post files root = compile post [(root', pasteU files 9 root units)] root') := by
  obtain ⟨hn, ht⟩ := pasteU_spec files 9 root units
  have h2 : compile post [(root', pasteU files 9 root units)] root' =
      (some (post (paste files 9 root units)), []) := by
    simp only [compile, loadRoot, findFile, BEq.rfl, if_true, load_nonLessOnly _ 8 _ _ hn, ht]
  obtain ⟨h1, h1'⟩ := C14_post post files root units hroot hd
  exact ⟨hn, ht, by rw [h1, h2], fun he => by rw [h1' he, h2]⟩

/-- with a concrete `post` (here: join the lines) -/
example : compile String.join Ex.files ["main.less"] =
    (some (String.join Ex.pasted), [.missing ["gone.less"]]) := by
  rw [(C14_post String.join Ex.files ["main.less"] Ex.main rfl Ex.depth9).1, Ex.paste_main, Ex.missing_main]
/-- all imported files exist below sub/b.less: nothing is registered -/
example : allExist Ex.files 9 ["sub", "b.less"] Ex.b = true := Ex.facts.2.2.2.1
example : compile List.length Ex.files ["sub", "b.less"] = (some 3, []) := by
  rw [(C14_post List.length Ex.files ["sub", "b.less"] Ex.b rfl Ex.facts.2.2.1).2 Ex.facts.2.2.2.1,
    Ex.facts.2.2.2.2]
/-- the pasted file: the non-LESS imports are still statements -/
example : pasteU Ex.files 9 ["main.less"] Ex.main =
    [.other "@m: 1;", .other ".b{}", .other "@c: 2;", .other ".b2{}",
     .imp "x.css" "@import \"x.css\" screen;", .other ".m{w:@c}",
     .other ".b{}", .other "@c: 2;", .other ".b2{}",
     .imp "http://example.com/a.css" "@import url(http://example.com/a.css);"] := by decide +kernel
example : (compile String.join Ex.files ["main.less"]).1 =
    (compile String.join [(["all.less"], pasteU Ex.files 9 ["main.less"] Ex.main)] ["all.less"]).1 :=
  (C14_post_flat String.join Ex.files ["main.less"] ["all.less"] Ex.main rfl Ex.depth9).2.2.1

/-! ## 3 a non-LESS import is copied unchanged at its position -/

/-- **C14_paste_append**: "at that position": the pasted text of a unit list is the concatenation of
    the pasted texts of its parts, in order (and so are the register and the depth condition). -/
theorem C14_paste_append (files : Files) (d : Nat) (cur : Path) (us1 us2 : List Unit') :
    paste files d cur (us1 ++ us2) = paste files d cur us1 ++ paste files d cur us2 ∧
    missingOf files d cur (us1 ++ us2) = missingOf files d cur us1 ++ missingOf files d cur us2 ∧
    depthLe files d cur (us1 ++ us2) = (depthLe files d cur us1 && depthLe files d cur us2) :=
  ⟨paste_append .., missingOf_append .., depthLe_append ..⟩

example : paste Ex.files 9 ["main.less"] (Ex.main.take 3 ++ Ex.main.drop 3) =
    paste Ex.files 9 ["main.less"] (Ex.main.take 3) ++ paste Ex.files 9 ["main.less"] (Ex.main.drop 3) :=
  (C14_paste_append Ex.files 9 ["main.less"] _ _).1

/-- **C14_stmt**: an import that is not a LESS import (a `.css` path, a url, anything with another
    extension; `raw` is the statement as written, media list included) is the statement itself, between
    the pasted text of what precedes and of what follows; it registers nothing. -/
theorem C14_stmt (files : Files) (d : Nat) (cur : Path) (us1 us2 : List Unit') (ip raw : String)
    (h : isLess ip = false) :
    paste files d cur (us1 ++ .imp ip raw :: us2) =
      paste files d cur us1 ++ raw :: paste files d cur us2 ∧
    missingOf files d cur (us1 ++ .imp ip raw :: us2) =
      missingOf files d cur us1 ++ missingOf files d cur us2 := by
  refine ⟨by rw [paste_append, (C14_paste_spec files d cur).2.2.1 ip raw us2 h], ?_⟩
  rw [missingOf_append]
  cases d <;> simp [missingOf, missingWith, h]

/-- **C14_stmt_load**: the same about the parser, under the hypothesis of C14_inline. -/
theorem C14_stmt_load (files : Files) (b : Nat) (cur : Path) (us1 us2 : List Unit') (ip raw : String)
    (h : isLess ip = false) (hd : depthLe files b cur (us1 ++ .imp ip raw :: us2) = true) :
    load files b cur (us1 ++ .imp ip raw :: us2) =
      (some (paste files b cur us1 ++ raw :: paste files b cur us2),
       missingOf files b cur us1 ++ missingOf files b cur us2) := by
  obtain ⟨h1, h2⟩ := C14_stmt files b cur us1 us2 ip raw h
  rw [(C14_inline files b cur _ hd).1, h1, h2]

/-- **C14_stmt_any**: and without any hypothesis on the depth of the imports around it, for every
    parser of level < 9: the statement stands between the output for what precedes and the output for
    what follows, and registers nothing. -/
theorem C14_stmt_any (files : Files) (b : Nat) (cur : Path) (us1 us2 : List Unit') (ip raw : String)
    (h : isLess ip = false) :
    ∃ o1 o2, (load files (b + 1) cur us1).1 = some o1 ∧ (load files (b + 1) cur us2).1 = some o2 ∧
      load files (b + 1) cur (us1 ++ .imp ip raw :: us2) =
        (some (o1 ++ raw :: o2), (load files (b + 1) cur us1).2 ++ (load files (b + 1) cur us2).2) := by
  simp only [load_succ, pasteWith_append, missingWith_append]
  exact ⟨_, _, rfl, rfl, by simp [pasteWith, missingWith, h]⟩

example : isLess "x.css" = false ∧ isLess "http://example.com/a.css" = false := Ex.paths.notLess
/-- main.less = 2 units ++ the x.css import :: 4 units -/
example : load Ex.files 9 ["main.less"] Ex.main =
    (some (paste Ex.files 9 ["main.less"] (Ex.main.take 2) ++ "@import \"x.css\" screen;" ::
        paste Ex.files 9 ["main.less"] (Ex.main.drop 3)),
     missingOf Ex.files 9 ["main.less"] (Ex.main.take 2) ++
       missingOf Ex.files 9 ["main.less"] (Ex.main.drop 3)) :=
  C14_stmt_load Ex.files 9 ["main.less"] (Ex.main.take 2) (Ex.main.drop 3) "x.css" _
    Ex.paths.notLess.1 Ex.depth9
example : paste Ex.files 9 ["main.less"] (Ex.main.take 2) = ["@m: 1;", ".b{}", "@c: 2;", ".b2{}"] ∧
    paste Ex.files 9 ["main.less"] (Ex.main.drop 3) =
      [".m{w:@c}", ".b{}", "@c: 2;", ".b2{}", "@import url(http://example.com/a.css);"] :=
  Ex.facts.1.2.2.2.2

/-- the same position statement without looking at the depth of the other imports -/
example : ∃ o1 o2, (load Ex.filesSelf 9 ["s.less"] [.imp "s" "@import \"s\";"]).1 = some o1 ∧
    (load Ex.filesSelf 9 ["s.less"] [.other "z"]).1 = some o2 ∧
    load Ex.filesSelf 9 ["s.less"] ([.imp "s" "@import \"s\";"] ++ .imp "x.css" "@import \"x.css\";" ::
      [.other "z"]) = (some (o1 ++ "@import \"x.css\";" :: o2),
        (load Ex.filesSelf 9 ["s.less"] [.imp "s" "@import \"s\";"]).2 ++
          (load Ex.filesSelf 9 ["s.less"] [.other "z"]).2) :=
  C14_stmt_any Ex.filesSelf 8 ["s.less"] _ _ "x.css" _ Ex.paths.notLess.1

/-! ## 4 a missing .less file is reported -/

/-- **C14_errs**: a parser of level < 9 is never aborted (the parser of level 9 is, exactly if its file
    contains an import statement); its register is the concatenation of what was registered for each
    part of its unit list; and the register of the parser of an imported file is a contiguous part of
    the register of the importer: no registered error is ever dropped. -/
theorem C14_errs (files : Files) :
    (∀ b cur units, (load files (b + 1) cur units).1 ≠ none) ∧
    (∀ cur units, (load files 0 cur units).1 = none ↔ noImp units = false) ∧
    (∀ b cur us1 us2, (load files (b + 1) cur (us1 ++ us2)).2 =
      (load files (b + 1) cur us1).2 ++ (load files (b + 1) cur us2).2) ∧
    (∀ b cur us1 us2 ip raw us, isLess ip = true → findFile files (resolve cur ip) = some us →
      (load files b (resolve cur ip) us).2 <:+:
        (load files (b + 1) cur (us1 ++ .imp ip raw :: us2)).2) ∧
    (∀ root units, findFile files root = some units →
      ∃ out, loadRoot files root = (some out, (load files 9 root units).2)) := by
  refine ⟨fun b cur us h => ?_, fun cur us => by rw [load_zero]; cases noImp us <;> simp,
    fun b cur us1 us2 => by simp only [load_succ, missingWith_append],
    fun b cur us1 us2 ip raw us hl hf => ?_, fun root us hr => ?_⟩
  · rw [load_succ] at h; cases h
  · simp only [load_succ, missingWith_append, missingWith, hl, hf, if_true, subErrs]
    exact ⟨_, _, by simp only [List.append_assoc]; rfl⟩
  · exact ⟨_, by simp only [loadRoot, hr]; rw [load_succ files 8 root us]⟩

example : ∃ out, loadRoot Ex.files ["main.less"] = (some out, (load Ex.files 9 ["main.less"] Ex.main).2) :=
  (C14_errs Ex.files).2.2.2.2 ["main.less"] Ex.main rfl
/-- the register of d/b.less is part of the register of a.less -/
example : (load Ex.filesDeep 8 (resolve ["a.less"] "d/b") [.other "x", .imp "zz" "@import \"zz\";"]).2 <:+:
    (load Ex.filesDeep 9 ["a.less"] ([] ++ .imp "d/b" "@import \"d/b\";" :: [])).2 :=
  (C14_errs Ex.filesDeep).2.2.2.1 8 ["a.less"] [] [] "d/b" _ _ Ex.pathsDeep.db.1 Ex.pathsDeep.db.2

/-- **C14_missing**: a LESS import that names a file that does not exist is registered as missing —
    wherever the statement stands in its file and whatever stands around it, for every parser of level
    < 9 (the parser of level 9 aborts at its first import statement and `tooDeep` is registered
    instead) — and the parser goes on. -/
theorem C14_missing (files : Files) (b : Nat) (cur : Path) (us1 us2 : List Unit') (ip raw : String)
    (hl : isLess ip = true) (hf : findFile files (resolve cur ip) = none) :
    IErr.missing (resolve cur ip) ∈ (load files (b + 1) cur (us1 ++ .imp ip raw :: us2)).2 ∧
    (load files (b + 1) cur (us1 ++ .imp ip raw :: us2)).2 =
      (load files (b + 1) cur us1).2 ++ .missing (resolve cur ip) :: (load files (b + 1) cur us2).2 ∧
    (load files (b + 1) cur (us1 ++ .imp ip raw :: us2)).1 ≠ none := by
  have h : (load files (b + 1) cur (us1 ++ .imp ip raw :: us2)).2 =
      (load files (b + 1) cur us1).2 ++ .missing (resolve cur ip) :: (load files (b + 1) cur us2).2 := by
    simp [load_succ, missingWith_append, missingWith, hl, hf]
  exact ⟨by rw [h]; simp, h, (C14_errs files).1 b cur _⟩

/-- **C14_missing_root**: so a compilation whose root file contains such a statement reports it,
    whatever `post` is; and so does one whose root imports (LESS, existing) a file containing it. -/
theorem C14_missing_root {α : Type} (post : List String → α) (files : Files) (root : Path)
    (us1 us2 : List Unit') (ip raw : String)
    (hroot : findFile files root = some (us1 ++ .imp ip raw :: us2)) (hl : isLess ip = true) :
    (findFile files (resolve root ip) = none →
      IErr.missing (resolve root ip) ∈ (compile post files root).2) ∧
    (∀ vs1 vs2 ip' raw', findFile files (resolve root ip) = some (vs1 ++ .imp ip' raw' :: vs2) →
      isLess ip' = true → findFile files (resolve (resolve root ip) ip') = none →
      IErr.missing (resolve (resolve root ip) ip') ∈ (compile post files root).2) := by
  have hc : (compile post files root).2 = (load files 9 root (us1 ++ .imp ip raw :: us2)).2 := by
    simp only [compile, loadRoot, hroot]
    rcases load files 9 root (us1 ++ .imp ip raw :: us2) with ⟨_ | o, e⟩ <;> rfl
  refine ⟨fun hf => ?_, fun vs1 vs2 ip' raw' hf hl' hf' => ?_⟩
  · rw [hc]; exact (C14_missing files 8 root us1 us2 ip raw hl hf).1
  · rw [hc]
    exact ((C14_errs files).2.2.2.1 8 root us1 us2 ip raw _ hl hf).subset
      (C14_missing files 7 _ vs1 vs2 ip' raw' hl' hf').1

example : isLess "gone" = true ∧ findFile Ex.files (resolve ["main.less"] "gone") = none :=
  Ex.paths.gone
example : IErr.missing ["gone.less"] ∈ (compile String.join Ex.files ["main.less"]).2 := by
  have h := (C14_missing_root String.join Ex.files ["main.less"] (Ex.main.take 4) (Ex.main.drop 5)
    "gone" _ rfl Ex.paths.gone.1).1 Ex.paths.gone.2
  rwa [Ex.paths.goneAt] at h
/-- a missing file one level down (named relative to the file that names it), reported at the top -/
example : IErr.missing ["d", "zz.less"] ∈ (compile String.join Ex.filesDeep ["a.less"]).2 := by
  have h := (C14_missing_root String.join Ex.filesDeep ["a.less"] [] [] "d/b" _ rfl Ex.pathsDeep.db.1).2
    [.other "x"] [] "zz" "@import \"zz\";" Ex.pathsDeep.db.2 Ex.pathsDeep.zz.1 Ex.pathsDeep.zz.2
  rwa [Ex.pathsDeep.zzAt] at h

/-! ## 5 the written path: extension optional, relative to the importing file, normalised -/

/-- **C14_path_ext**: the extension is optional: a written path whose last component has no dot and is
    not empty — alone (`b`) or behind directories (`sub/b`, `../b`) — is a LESS import, so is the same
    path with `.less`, and both name the same file. -/
theorem C14_path_ext (cur : Path) (n : String) (hs : '/' ∉ n.toList) (hd : '.' ∉ n.toList)
    (hne : n ≠ "") :
    (resolve cur n = resolve cur (n ++ ".less") ∧ isLess n = true ∧ isLess (n ++ ".less") = true) ∧
    ∀ pre : String,
      resolve cur (pre ++ "/" ++ n) = resolve cur (pre ++ "/" ++ n ++ ".less") ∧
      isLess (pre ++ "/" ++ n) = true ∧ isLess (pre ++ "/" ++ n ++ ".less") = true :=
  ⟨ext_optional cur n (by rwa [lastComp_noSlash n hs]) (by rwa [lastComp_noSlash n hs]),
   fun pre => ext_optional cur _ (by rwa [lastComp_pre pre n hs]) (by rwa [lastComp_pre pre n hs])⟩

/-- **C14_path_less_ext**: any last component that does not consist of dots only, followed by `.less`,
    is a LESS import (`a.b.less`, `.hidden.less`), alone or behind directories. -/
theorem C14_path_less_ext (n : String) (hs : '/' ∉ n.toList) (hn : ∃ c ∈ n.toList, c ≠ '.') :
    isLess (n ++ ".less") = true ∧ ∀ pre : String, isLess (pre ++ "/" ++ n ++ ".less") = true :=
  ⟨isLess_append_less n (by rwa [lastComp_noSlash n hs]),
   fun pre => isLess_append_less _ (by rwa [lastComp_pre pre n hs])⟩

example : isLess ("a.b" ++ ".less") = true ∧ isLess ("sub" ++ "/" ++ ".hidden" ++ ".less") = true :=
  ⟨(C14_path_less_ext "a.b" (by decide +kernel) ⟨'a', by decide +kernel, by decide +kernel⟩).1,
   (C14_path_less_ext ".hidden" (by decide +kernel) ⟨'h', by decide +kernel, by decide +kernel⟩).2 "sub"⟩
example : resolve ["main.less"] "sub/b" = resolve ["main.less"] "sub/b.less" :=
  ((C14_path_ext ["main.less"] "b" (by decide +kernel) (by decide +kernel) (by decide +kernel)).2 "sub").1
example : resolve ["main.less"] "sub/b" = ["sub", "b.less"] := Ex.paths.subb.2.1
/-- the side conditions matter: `.less` alone is a hidden file without extension (os.path.splitext) -/
example : resolve [] "" ≠ resolve [] ("" ++ ".less") := by decide +kernel

/-- **C14_path_rel**: relative to the importing file: in the file `dir/f`, the written path
    `sub/…/g` (components joined with "/") names `dir/sub/…/g` if `g` has an extension, and
    `dir/sub/…/g.less` if it has no dot — for proper components (not empty, not `.`, not `..`; those of
    the written path without '/'). -/
theorem C14_path_rel (dir sub : List String) (f : String)
    (hdir : ∀ c ∈ dir, Proper c) (hsub : ∀ c ∈ sub, Proper c ∧ '/' ∉ c.toList) :
    (∀ g : String, Proper g → '/' ∉ g.toList → extOf g.toList ≠ [] →
      resolve (dir ++ [f]) (String.intercalate "/" (sub ++ [g])) = dir ++ sub ++ [g]) ∧
    (∀ g : String, '/' ∉ g.toList → (∃ c ∈ g.toList, c ≠ '.') →
      resolve (dir ++ [f]) (String.intercalate "/" (sub ++ [g ++ ".less"])) =
        dir ++ sub ++ [g ++ ".less"]) ∧
    (∀ g : String, '/' ∉ g.toList → '.' ∉ g.toList → g ≠ "" →
      resolve (dir ++ [f]) (String.intercalate "/" (sub ++ [g])) = dir ++ sub ++ [g ++ ".less"]) := by
  have hj := fun g => resolve_join (dir ++ [f]) sub g fun c hc => (hsub c hc).2
  have hn : ∀ g, Proper g → normalize (dir ++ sub ++ [g]) = dir ++ sub ++ [g] := fun g hg =>
    normalize_proper _ (List.forall_mem_append.2
      ⟨List.forall_mem_append.2 ⟨hdir, fun c hc => (hsub c hc).1⟩, List.forall_mem_singleton.2 hg⟩)
  have key : ∀ g : String, Proper g → '/' ∉ g.toList → extOf g.toList ≠ [] →
      resolve (dir ++ [f]) (String.intercalate "/" (sub ++ [g])) = dir ++ sub ++ [g] :=
    fun g hg hs hext => by rw [hj g hs, if_neg hext, List.dropLast_concat, hn g hg]
  refine ⟨key, fun g hs hne => key _ (proper_less g) (by simp [hs]) ?_, fun g hs hd _ => ?_⟩
  · rw [toList_append_less, extOf_less _ hne]; simp
  · rw [hj g hs, if_pos (extOf_nodot _ hd), List.dropLast_concat, hn _ (proper_less g)]

example : splitSlash (String.intercalate "/" ["..", "sub", "b.less"]) = ["..", "sub", "b.less"] :=
  C14_path_split _ (by simp) (by decide +kernel)
example : resolve (["lib", "v2"] ++ ["main.less"]) (String.intercalate "/" (["sub"] ++ ["b"])) =
    ["lib", "v2"] ++ ["sub"] ++ ["b" ++ ".less"] :=
  (C14_path_rel ["lib", "v2"] ["sub"] "main.less" (by decide +kernel) (by decide +kernel)).2.2 "b" (by decide +kernel)
    (by decide +kernel) (by decide +kernel)
example : resolve ["lib", "v2", "main.less"] "sub/b" = ["lib", "v2", "sub", "b.less"] := by decide +kernel
example : String.intercalate "/" ["sub", "b"] = "sub/b" := by decide +kernel

/-- **C14_path_dotdot**: `..` steps out of the directory before it, `.` and empty components (`a//b`)
    are dropped; a list of proper components is its own normal form; the result of `normalize`
    always consists of proper components. -/
theorem C14_path_dotdot (dir rest : List String) (hdir : ∀ c ∈ dir, Proper c) :
    (∀ d, Proper d → normalize (dir ++ [d, ".."] ++ rest) = normalize (dir ++ rest)) ∧
    (∀ xs : List String, normalize (xs ++ "." :: rest) = normalize (xs ++ rest)) ∧
    (∀ xs : List String, normalize (xs ++ "" :: rest) = normalize (xs ++ rest)) ∧
    normalize dir = dir ∧
    (∀ xs : List String, ∀ c ∈ normalize xs, Proper c) :=
  ⟨fun d hd => by
     unfold normalize
     rw [List.append_assoc, normalizeAux_proper_append dir _ [] hdir,
       normalizeAux_proper_append dir _ [] hdir]
     simp only [List.cons_append, List.nil_append]
     rw [normalizeAux_proper d _ _ hd, normalizeAux_dotdot, List.tail_cons],
   fun xs => normalizeAux_skip xs rest [] "." (.inr rfl),
   fun xs => normalizeAux_skip xs rest [] "" (.inl rfl),
   normalize_proper dir hdir, normalize_all_proper⟩

/-- `../c.less` written in sub/b.less is c.less next to main.less -/
example : resolve ["sub", "b.less"] "../c.less" = ["c.less"] := by decide +kernel
example : normalize ([] ++ ["sub", ".."] ++ ["c.less"]) = normalize ([] ++ ["c.less"]) :=
  (C14_path_dotdot [] ["c.less"] (by simp)).1 "sub" (by decide +kernel)
example : resolve ["a", "b", "m.less"] "./x/../../y//z" = ["a", "y", "z.less"] := by decide +kernel

/-- **C14_path_kind**: the decision LESS / not LESS on the catalogue of written paths. -/
theorem C14_path_kind :
    (isLess "x.css" = false ∧ isLess "y.CSS" = false ∧ isLess "theme.less?v=2" = false ∧
      isLess "p.php" = false ∧ isLess "http://example.com/a.css" = false ∧
      isLess "dir.less/x.css" = false) ∧
    (isLess "b" = true ∧ isLess "b.less" = true ∧ isLess "b.LESS" = true ∧ isLess "sub/b" = true ∧
      isLess "../c.less" = true ∧ isLess "a.b/c" = true ∧ isLess ".hidden" = true ∧
      isLess "a.b.less" = true) := by
  decide +kernel

/-- **C14_path**: the path facts the property names, in one statement: (a) the extension is optional;
    (b) a written path is taken relative to the directory of the importing file; (c) `d/..` cancels;
    (d) `.css`, other extensions and urls are not LESS imports, no extension and `.less` (any case)
    are.  (More general forms: C14_path_ext, C14_path_less_ext, C14_path_rel, C14_path_dotdot,
    C14_path_kind.) -/
theorem C14_path :
    (∀ (cur : Path) (n : String), '/' ∉ n.toList → '.' ∉ n.toList → n ≠ "" →
      resolve cur n = resolve cur (n ++ ".less") ∧ isLess n = true ∧ isLess (n ++ ".less") = true) ∧
    (∀ (dir sub : List String) (f g : String), (∀ c ∈ dir, Proper c) →
      (∀ c ∈ sub, Proper c ∧ '/' ∉ c.toList) → '/' ∉ g.toList → (∃ c ∈ g.toList, c ≠ '.') →
      resolve (dir ++ [f]) (String.intercalate "/" (sub ++ [g ++ ".less"])) =
        dir ++ sub ++ [g ++ ".less"]) ∧
    (∀ (dir rest : List String) (d : String), (∀ c ∈ dir, Proper c) → Proper d →
      normalize (dir ++ [d, ".."] ++ rest) = normalize (dir ++ rest)) ∧
    (isLess "x.css" = false ∧ isLess "http://example.com/a.css" = false ∧ isLess "b" = true ∧
      isLess "b.less" = true ∧ isLess "sub/b" = true ∧ isLess "../c.less" = true) :=
  ⟨fun cur n hs hd hne => (C14_path_ext cur n hs hd hne).1,
   fun dir sub f g hdir hsub hs hn => (C14_path_rel dir sub f hdir hsub).2.1 g hs hn,
   fun dir rest d hdir hd => (C14_path_dotdot dir rest hdir).1 d hd,
   C14_path_kind.1.1, C14_path_kind.1.2.2.2.2.1, C14_path_kind.2.1, C14_path_kind.2.2.1,
   C14_path_kind.2.2.2.2.1, C14_path_kind.2.2.2.2.2.1⟩

/-- the import of sub/b.less in main.less, through (b) -/
example : resolve ([] ++ ["main.less"]) (String.intercalate "/" (["sub"] ++ ["b" ++ ".less"])) =
    [] ++ ["sub"] ++ ["b" ++ ".less"] :=
  C14_path.2.1 [] ["sub"] "main.less" "b" (by simp) (by decide +kernel) (by decide +kernel) ⟨'b', by decide +kernel, by decide +kernel⟩

/-! ## 6 importing the same file twice pastes it twice -/

/-- **C14_twice**: two LESS import statements naming the same existing file (written the same way or
    not: `sub/b` and `sub/b.less`) each stand for the pasted text of that file: the text appears
    twice, each time at the position of the statement; the parser does exactly that if the imports are
    at most `d + 1` deep. -/
theorem C14_twice (files : Files) (d : Nat) (cur : Path) (us1 us2 us3 us : List Unit')
    (ip raw ip' raw' : String) (hl : isLess ip = true) (hl' : isLess ip' = true)
    (hsame : resolve cur ip' = resolve cur ip) (hf : findFile files (resolve cur ip) = some us) :
    paste files (d + 1) cur (us1 ++ .imp ip raw :: us2 ++ .imp ip' raw' :: us3) =
      paste files (d + 1) cur us1 ++ paste files d (resolve cur ip) us ++
        paste files (d + 1) cur us2 ++ paste files d (resolve cur ip) us ++
        paste files (d + 1) cur us3 ∧
    (depthLe files (d + 1) cur (us1 ++ .imp ip raw :: us2 ++ .imp ip' raw' :: us3) = true →
      (load files (d + 1) cur (us1 ++ .imp ip raw :: us2 ++ .imp ip' raw' :: us3)).1 =
        some (paste files (d + 1) cur us1 ++ paste files d (resolve cur ip) us ++
          paste files (d + 1) cur us2 ++ paste files d (resolve cur ip) us ++
          paste files (d + 1) cur us3)) := by
  have h : paste files (d + 1) cur (us1 ++ .imp ip raw :: us2 ++ .imp ip' raw' :: us3) =
      paste files (d + 1) cur us1 ++ paste files d (resolve cur ip) us ++
        paste files (d + 1) cur us2 ++ paste files d (resolve cur ip) us ++
        paste files (d + 1) cur us3 := by
    have hf' : findFile files (resolve cur ip') = some us := by rw [hsame]; exact hf
    have himp := (C14_paste_spec files d cur).2.2.2.1
    rw [paste_append, paste_append, himp ip' raw' us3 us hl' hf', himp ip raw us2 us hl hf, hsame]
    simp only [List.append_assoc]
  exact ⟨h, fun hd => by rw [(C14_inline files (d + 1) cur _ hd).1, h]⟩

/-- main.less imports `sub/b` and later `sub/b.less` -/
example : Ex.main = Ex.main.take 1 ++ .imp "sub/b" "@import \"sub/b\";" :: (Ex.main.drop 2).take 3 ++
    .imp "sub/b.less" "@import \"sub/b.less\";" :: Ex.main.drop 6 := rfl
example : resolve ["main.less"] "sub/b.less" = resolve ["main.less"] "sub/b" :=
  Ex.paths.subbLess.2.trans Ex.paths.subb.2.1.symm
example : paste Ex.files 9 ["main.less"]
      (Ex.main.take 1 ++ .imp "sub/b" "@import \"sub/b\";" :: (Ex.main.drop 2).take 3 ++
        .imp "sub/b.less" "@import \"sub/b.less\";" :: Ex.main.drop 6) =
    paste Ex.files 9 ["main.less"] (Ex.main.take 1) ++
      paste Ex.files 8 (resolve ["main.less"] "sub/b") Ex.b ++
      paste Ex.files 9 ["main.less"] ((Ex.main.drop 2).take 3) ++
      paste Ex.files 8 (resolve ["main.less"] "sub/b") Ex.b ++
      paste Ex.files 9 ["main.less"] (Ex.main.drop 6) :=
  (C14_twice Ex.files 8 ["main.less"] (Ex.main.take 1) ((Ex.main.drop 2).take 3)
    (Ex.main.drop 6) Ex.b "sub/b" "@import \"sub/b\";" "sub/b.less" "@import \"sub/b.less\";"
    Ex.paths.subb.1 Ex.paths.subbLess.1 (Ex.paths.subbLess.2.trans Ex.paths.subb.2.1.symm)
    Ex.paths.subb.2.2).1
example : paste Ex.files 8 (resolve ["main.less"] "sub/b") Ex.b = [".b{}", "@c: 2;", ".b2{}"] := by
  rw [Ex.paths.subb.2.1]; exact Ex.facts.2.1

end Lessm.Imp
