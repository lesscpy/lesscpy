/-
  Property C20 – "Every compilation finishes in time bounded by the size of its (expanded) input.  A
  mixin that calls itself without a reachable base case, files that import each other in a cycle, and
  variables defined in terms of each other are all detected and reported as a compilation error rather
  than hanging, exhausting the interpreter stack, or escaping as an unrelated exception; guarded
  recursion shallower than the built-in depth limit still expands completely."

  This file: the variable part (A) and the import part (B), about `Lessm/Model/Term.lean`.  Every
  definition of that model is a total Lean function without `partial` and without any fuel except the
  counters lesscpy itself has (nesting budget, round allowance, import level); that is the termination
  statement.  The theorems below say what the counters do.

  Only theorems and examples here (and, in `Ex`, the data of the examples); the definitions the
  statements use and the lemmas are in `Lessm/Lemmas/TermLemmas.lean`.
-/
import Lessm.Lemmas.TermLemmas

namespace Lessm.Term

namespace Ex

/-- `@a: @b; @b: @a;` -/
def envAB : Env := [("a", [.ref "b"]), ("b", [.ref "a"])]

/-- `@a: (@a);` – the self reference sits in a node (expression) -/
def envNode : Env := [("a", [.node [.ref "a"]])]

/-- `@x: 1 (@p + 1); @p: @q; @q: @r; @r: @p;` – a 3-cycle behind a node of the acyclic `@x` -/
def env3 : Env :=
  [("x", [.lit "1", .node [.ref "p", .lit "+", .lit "1"]]),
   ("p", [.ref "q"]), ("q", [.ref "r"]), ("r", [.ref "p"])]

/-- `@a: @b @zz; @b: @a;` – a cycle, but `@zz` is undefined -/
def envUndef : Env := [("a", [.ref "b", .ref "zz"]), ("b", [.ref "a"])]

/-- `@a: @b 1 (@c * @c); @b: @c; @c: 2;` – acyclic -/
def envOk : Env :=
  [("a", [.ref "b", .lit "1", .node [.ref "c", .lit "*", .ref "c"]]), ("b", [.ref "c"]),
   ("c", [.lit "2"])]

def rkOk : String → Nat := fun n => if n == "a" then 2 else if n == "b" then 1 else 0

/-- two files importing each other -/
def files2 : Files :=
  [("a.less", [.rule "a{}", .imp "b.less"]), ("b.less", [.rule "b{}", .imp "a.less"])]

/-- a file importing itself -/
def filesSelf : Files := [("s.less", [.imp "s.less", .rule "s{}"])]

/-- an acyclic root that reaches a 3-cycle, and an acyclic library -/
def files3 : Files :=
  [("main.less", [.rule "m{}", .imp "lib.less", .imp "x.less"]),
   ("lib.less", [.rule "l{}", .imp "base.less", .imp "gone.less"]),
   ("base.less", [.rule "b{}"]),
   ("x.less", [.imp "c1.less"]),
   ("c1.less", [.rule "1{}", .imp "c2.less"]),
   ("c2.less", [.rule "2{}", .imp "c3.less"]),
   ("c3.less", [.rule "3{}", .imp "c1.less"])]

end Ex

/-! ### A1 a reachable cycle is an error, and the error is `recursive` -/

/-- **C20_var_cycle_err**: if the value reaches a variable that is reachable from its own definition
    (at top level or inside expressions, directly or through other variables), its evaluation never
    succeeds — for every nesting budget and every round allowance. -/
theorem C20_var_cycle_err (env : Env) (ts : List Tok)
    (hc : ∃ n v, Reach env ts n ∧ lookup env n = some v ∧ Reach env v n) :
    (∀ b left v, loop (process env b) env left ts ≠ .ok v) ∧
    (∀ b v, process env b ts ≠ .ok v) ∧
    ∀ v, eval env ts ≠ .ok v := by
  have h2 := fun b => process_cycle_not_ok b ts hc
  exact ⟨fun b left => loop_cycle_not_ok (process_cycle_not_ok b) left ts hc, h2, h2 _⟩

example : ∃ n v, Reach Ex.envUndef [.ref "a"] n ∧ lookup Ex.envUndef n = some v ∧
    Reach Ex.envUndef v n :=
  ⟨"a", _, .base (by decide +kernel), rfl, .step (n := "b") (.base (by decide +kernel)) rfl (by decide +kernel)⟩
/-- without "all reachable names defined" the error may be the other one -/
example : eval Ex.envUndef [.ref "a"] = .error (.unknown "zz") := by decide +kernel
example : eval Ex.envUndef [.ref "b"] = .error (.unknown "zz") := by decide +kernel

/-- **C20_var_cycle**: if moreover every reachable name is defined, the evaluation is reported as
    `Recursive variable definition` — for every nesting budget and every round allowance, in
    particular for lesscpy's (128 and `2 * #variables + 4`). -/
theorem C20_var_cycle (env : Env) (ts : List Tok)
    (hdef : ∀ n, Reach env ts n → (lookup env n).isSome)
    (hc : ∃ n v, Reach env ts n ∧ lookup env n = some v ∧ Reach env v n) :
    (∀ b left, loop (process env b) env left ts = .error .recursive) ∧
    (∀ b, process env b ts = .error .recursive) ∧
    eval env ts = .error .recursive := by
  have h1 : ∀ b left, loop (process env b) env left ts = .error .recursive := by
    intro b left
    have ha := (C20_var_cycle_err env ts hc).1 b left
    have hb := loop_no_unknown (process_no_unknown b) left ts hdef
    -- neither a value nor `unknown`: what is left is `recursive`
    match h : loop (process env b) env left ts with
    | .ok v => exact absurd h (ha v)
    | .error (.unknown m) => exact absurd h (hb m)
    | .error .recursive => rfl
  have h2 : ∀ b, process env b ts = .error .recursive
    | 0 => rfl
    | b + 1 => h1 b _
  exact ⟨h1, h2, h2 _⟩

/-- `@a: @b; @b: @a;` – the hypotheses hold … -/
example : (∀ n, Reach Ex.envAB [.ref "a"] n → (lookup Ex.envAB n).isSome) ∧
    ∃ n v, Reach Ex.envAB [.ref "a"] n ∧ lookup Ex.envAB n = some v ∧ Reach Ex.envAB v n :=
  ⟨allDef_of_allDefB (by decide +kernel),
   "a", _, .base (by decide +kernel), rfl, .step (n := "b") (.base (by decide +kernel)) rfl (by decide +kernel)⟩
/-- … and the model computes the conclusion -/
example : eval Ex.envAB [.ref "a"] = .error .recursive := by decide +kernel
/-- `@a: (@a);` – through a node: here it is the nesting budget that is exhausted -/
example : (∀ n, Reach Ex.envNode [.ref "a"] n → (lookup Ex.envNode n).isSome) ∧
    ∃ n v, Reach Ex.envNode [.ref "a"] n ∧ lookup Ex.envNode n = some v ∧ Reach Ex.envNode v n :=
  ⟨allDef_of_allDefB (by decide +kernel), "a", _, .base (by decide +kernel), rfl, .base (by decide +kernel)⟩
example : eval Ex.envNode [.ref "a"] = .error .recursive := by decide +kernel
example : process Ex.envNode 5 [.ref "a"] = .error .recursive := by decide +kernel
/-- a 3-cycle reached through a node of an acyclic prefix -/
example : (∀ n, Reach Ex.env3 [.lit "w", .ref "x"] n → (lookup Ex.env3 n).isSome) ∧
    ∃ n v, Reach Ex.env3 [.lit "w", .ref "x"] n ∧ lookup Ex.env3 n = some v ∧ Reach Ex.env3 v n :=
  ⟨allDef_of_allDefB (by decide +kernel),
   "p", _, .step (.base (by decide +kernel)) (n := "x") rfl (by decide +kernel), rfl,
   .step (.step (.base (by decide +kernel)) (n := "q") rfl (by decide +kernel)) (n := "r") rfl (by decide +kernel)⟩
example : eval Ex.env3 [.lit "w", .ref "x"] = .error .recursive := by decide +kernel

/-! ### A2 the bounds never change a successful evaluation -/

/-- **C20_var_mono**: a successful evaluation is not changed by a larger nesting budget or a larger
    round allowance (nor by nested evaluations that succeed more often): the bounds only ever turn a
    non-terminating or too deep evaluation into an error. -/
theorem C20_var_mono (env : Env) :
    (∀ b b' ts v, b ≤ b' → process env b ts = .ok v → process env b' ts = .ok v) ∧
    (∀ (inner inner' : List Tok → Except Err (List String)),
      (∀ ts v, inner ts = .ok v → inner' ts = .ok v) →
      ∀ left left' ts v, left ≤ left' →
        loop inner env left ts = .ok v → loop inner' env left' ts = .ok v) ∧
    (∀ b b' left left' ts v, b ≤ b' → left ≤ left' →
      loop (process env b) env left ts = .ok v → loop (process env b') env left' ts = .ok v) :=
  ⟨process_mono, fun _ _ hin => loop_mono hin,
   fun b b' left left' ts v hb hl =>
     loop_mono (fun ts v h => process_mono b b' ts v hb h) left left' ts v hl⟩

example : process Ex.envOk 2 [.ref "a"] = .ok ["2", "1", "2*2"] := by decide +kernel
example : eval Ex.envOk [.ref "a"] = .ok ["2", "1", "2*2"] :=
  (C20_var_mono Ex.envOk).1 2 maxNesting _ _ (by decide +kernel) (by decide +kernel)
/-- with a budget that is too small the same evaluation is an error, not a different value -/
example : process Ex.envOk 1 [.ref "a"] = .error .recursive := by decide +kernel

/-! ### A3 the round limit never rejects an acyclic definition set -/

/-- **C20_var_acyclic_rounds**: if all names reachable from `ts` are defined and none of them is
    reachable from its own value, then `#variables + 1` rounds are enough: a larger allowance gives the
    same result (value or error) whatever the nested evaluation does.  In particular lesscpy's limit
    `2 * #variables + 4` never cuts an acyclic evaluation. -/
theorem C20_var_acyclic_rounds (env : Env) (ts : List Tok)
    (hdef : ∀ n, Reach env ts n → (lookup env n).isSome)
    (hac : ∀ n v, Reach env ts n → lookup env n = some v → ¬ Reach env v n)
    (inner : List Tok → Except Err (List String)) :
    (∀ left k, env.length + 1 ≤ left → loop inner env (left + k) ts = loop inner env left ts) ∧
    ∀ k, loop inner env (roundLimit env + k) ts = loop inner env (roundLimit env) ts := by
  have h1 := fun left k => loop_stable inner left k ts (dies_of_acyclic hdef hac)
  exact ⟨h1, fun k => h1 _ k (by simp only [roundLimit]; omega)⟩

example : (∀ n, Reach Ex.envOk [.ref "a"] n → (lookup Ex.envOk n).isSome) ∧
    (∀ n v, Reach Ex.envOk [.ref "a"] n → lookup Ex.envOk n = some v → ¬ Reach Ex.envOk v n) :=
  ⟨allDef_of_allDefB (by decide +kernel), acyclic_of_rank Ex.rkOk (by decide +kernel) _⟩
example : loop (process Ex.envOk 1) Ex.envOk 3 [.ref "a"] = .ok ["2", "1", "2*2"] := by
  decide +kernel
/-- the chain `@a → @b → @c` needs three rounds; with two the allowance is exhausted -/
example : loop (process Ex.envOk 1) Ex.envOk 2 [.ref "a"] = .error .recursive := by decide +kernel

/-! ### A4 a successful evaluation ends in literals only -/

/-- **C20_var_ok_closed**: the loop succeeds exactly if, within the allowance, some round ends in a
    token list without top-level reference; that list then consists of literals only (no variable at
    any depth, no unevaluated node), and the value is their text. -/
theorem C20_var_ok_closed (inner : List Tok → Except Err (List String)) (env : Env) (left : Nat)
    (ts : List Tok) (v : List String) :
    (loop inner env left ts = .ok v ↔
      ∃ k, k ≤ left ∧ ∃ ts', Rounds inner env k ts ts' ∧ hasRef ts' = false ∧ v = texts ts') ∧
    (loop inner env left ts = .ok v →
      ∃ k ts1, k ≤ left ∧ Rounds inner env k ts ts1 ∧ ts1 = v.map Tok.lit ∧
        hasRef ts1 = false ∧ (∀ n, ¬ Occurs ts1 n) ∧ v = texts ts1) := by
  have h1 := loop_ok_iff (inner := inner) (env := env) left ts v
  refine ⟨h1, fun h => ?_⟩
  obtain ⟨k, hk, ts', hr, hh, rfl⟩ := h1.1 h
  obtain ⟨_, hP⟩ := hr.last
  -- a reference anywhere in the result of `parseNodes` is one at top level
  exact ⟨k, ts', hk, hr, hP.all_lit hh, hh,
    fun n ho => absurd (hasRef_of_mem (hP.ref_mem_of_occurs ho)) (by simp [hh]), rfl⟩

/-- the same for `process` -/
theorem C20_var_ok_closed_process (env : Env) (b : Nat) (ts : List Tok) (v : List String)
    (h : process env b ts = .ok v) :
    ∃ b' k ts1, b = b' + 1 ∧ k ≤ roundLimit env ∧ Rounds (process env b') env k ts ts1 ∧
      ts1 = v.map Tok.lit ∧ (∀ n, ¬ Occurs ts1 n) := by
  cases b with
  | zero => cases h
  | succ b' =>
    rw [process] at h
    obtain ⟨k, ts1, hk, hr, e, _, ho, _⟩ := (C20_var_ok_closed _ env _ ts v).2 h
    exact ⟨b', k, ts1, rfl, hk, hr, e, ho⟩

-- the three rounds are lines 1, 2–3 and 4 of the term, each a `Parsed`, `hasRef _ = true` (`rfl`) and a
-- `Substd`: `@a` → `@b 1 (@c * @c)` → (the node evaluated first) `@c 1 2*2` → `2 1 2*2`; line 5 is the
-- final `Parsed`
example : ∃ ts1, Rounds (process Ex.envOk 1) Ex.envOk 3 [.ref "a"] ts1 ∧
    ts1 = [.lit "2", .lit "1", .lit "2*2"] :=
  ⟨_, ⟨_, _, .ref _ .nil, rfl, .ref rfl .nil,
       _, _, .ref _ (.lit _ (.node (v := ["2", "*", "2"]) (by decide +kernel) .nil)), rfl,
         .ref rfl (.lit _ (.lit _ .nil)),
       _, _, .ref _ (.lit _ (.lit _ .nil)), rfl, .ref rfl (.lit _ (.lit _ .nil)),
       .lit _ (.lit _ (.lit _ .nil))⟩, rfl⟩

/-! ### B1 a reachable import cycle is reported -/

/-- the budget-generic form: an import chain of more than `b` imports through existing files, starting
    in an existing file read with budget `b`, makes that parser abort or register `tooDeep` -/
theorem C20_import_cycle_budget (files : Files) (b : Nat) (f : String) (us : List Unit')
    (hf : findFileU files f = some us) (hp : HasPath files (b + 1) f) :
    (loadUnits files b us).1 = none ∨ IErr.tooDeep ∈ (loadUnits files b us).2 := by
  induction b generalizing f us with
  | zero =>
    obtain ⟨g, ⟨us', hf', hm, _⟩, _⟩ := hp
    rw [hf] at hf'; cases hf'
    exact .inl (loadUnits_zero_imp files hm)
  | succ b ih =>
    obtain ⟨g, ⟨us', hf', hm, hg⟩, hp⟩ := hp
    rw [hf] at hf'; cases hf'
    obtain ⟨ug, hug⟩ := Option.isSome_iff_exists.1 hg
    obtain ⟨us1, us2, rfl⟩ := List.append_of_mem hm
    rw [loadUnits_succ, missingWith_append, missingWith, hug]
    -- the parser of `g` aborts or has registered `tooDeep`: either way it is in what `g` contributes
    refine .inr (List.mem_append_right _ (List.mem_append_left _ ?_))
    rcases ih g ug hug hp with h | h
    · simp [subErrs, h]
    · exact List.mem_append_left _ h

/-- **C20_import_cycle**: if the root file exists and reaches (in zero or more `@import` steps through
    existing files) a file that lies on an import cycle, then the compilation registers
    `Recrusive import level too deep` — and the outermost parser still finishes with an output. -/
theorem C20_import_cycle (files : Files) (root c : String)
    (hroot : (findFileU files root).isSome = true)
    (hreach : root = c ∨ IReach files root c) (hcyc : IReach files c c) :
    IErr.tooDeep ∈ (compileFile files root).2 ∧ (compileFile files root).1.isSome = true := by
  obtain ⟨us, hus⟩ := Option.isSome_iff_exists.1 hroot
  have hp : HasPath files 10 root := by
    rcases hreach with rfl | h
    · exact cycle_paths hcyc 10
    · exact h.path (cycle_paths hcyc 9)
  have hs : (loadUnits files 9 us).1.isSome = true := by rw [loadUnits_succ]; rfl
  simp only [compileFile, hus]
  refine ⟨?_, hs⟩
  rcases C20_import_cycle_budget files 9 root us hus hp with h | h
  · rw [h] at hs; cases hs
  · exact h

/-- two files importing each other -/
example : IReach Ex.files2 "a.less" "a.less" :=
  .step (g := "b.less") (by decide +kernel) (.single (by decide +kernel))
example : IErr.tooDeep ∈ (compileFile Ex.files2 "a.less").2 :=
  (C20_import_cycle Ex.files2 "a.less" "a.less" rfl (.inl rfl)
    (.step (g := "b.less") (by decide +kernel) (.single (by decide +kernel)))).1
/-- the complete result: levels 0–8 contribute their rule, the level-9 parser is aborted -/
example : compileFile Ex.files2 "a.less" =
    (some ["a{}", "b{}", "a{}", "b{}", "a{}", "b{}", "a{}", "b{}", "a{}"], [.tooDeep]) := by
  simp [compileFile, Ex.files2, findFileU, loadUnits]
/-- a file importing itself -/
example : IErr.tooDeep ∈ (compileFile Ex.filesSelf "s.less").2 :=
  (C20_import_cycle Ex.filesSelf "s.less" "s.less" rfl (.inl rfl)
    (.single (by decide +kernel))).1
/-- a 3-cycle reached from an acyclic root -/
example : IErr.tooDeep ∈ (compileFile Ex.files3 "main.less").2 :=
  (C20_import_cycle Ex.files3 "main.less" "c1.less" rfl
    (.inr (.step (g := "x.less") (by decide +kernel) (.single (by decide +kernel))))
    (.step (g := "c2.less") (by decide +kernel) (.step (g := "c3.less") (by decide +kernel)
      (.single (by decide +kernel))))).1

/-! ### B2 shallow imports expand completely -/

/-- **C20_import_shallow**: if every chain of imports starting in `units` has at most `b` imports
    (`depthLe`), a parser with budget `b` produces exactly the textual inclusion of the imported files
    and registers exactly the missing files, in traversal order; in particular never `tooDeep`, and
    nothing at all if all imported files exist. -/
theorem C20_import_shallow (files : Files) (b : Nat) (units : List Unit')
    (hd : depthLe files b units = true) :
    loadUnits files b units = (some (inline files b units), missingOf files b units) ∧
    IErr.tooDeep ∉ (loadUnits files b units).2 ∧
    (allExist files b units = true → loadUnits files b units = (some (inline files b units), [])) := by
  have h : loadUnits files b units = (some (inline files b units), missingOf files b units) := by
    induction b generalizing units with
    | zero => rw [loadUnits_zero, if_pos (show noImp units = true from hd)]
    | succ b ih =>
      -- on the files consulted the parser of the next level is `inline` / `missingOf` of that level
      obtain ⟨h1, h2⟩ := specWith_congr files (subP := subOut files b) (subP' := inline files b)
        (subM := subErrs files b) (subM' := missingOf files b)
        (fun vs hd => ⟨by rw [subOut, ih vs hd]; rfl, by simp [subErrs, ih vs hd]⟩) units hd
      rw [loadUnits_succ, inline, missingOf, h1, h2]
  refine ⟨h, ?_, fun he => ?_⟩
  · rw [h]; exact tooDeep_not_mem_missingOf files b units
  · rw [h, missingOf_of_allExist files b units he]

/-- **C20_import_shallow_compile**: the corollary for a whole compilation (budget 9 = levels 0..9). -/
theorem C20_import_shallow_compile (files : Files) (root : String) (units : List Unit')
    (hroot : findFileU files root = some units) (hd : depthLe files 9 units = true) :
    compileFile files root = (some (inline files 9 units), missingOf files 9 units) ∧
    IErr.tooDeep ∉ (compileFile files root).2 ∧
    (allExist files 9 units = true → compileFile files root = (some (inline files 9 units), [])) := by
  simp only [compileFile, hroot]
  exact C20_import_shallow files 9 units hd

/-- the specification does not depend on its fuel once the fuel covers the import depth -/
theorem C20_import_inline_fuel (files : Files) (d k : Nat) (units : List Unit')
    (hd : depthLe files d units = true) : inline files (d + k) units = inline files d units := by
  induction d generalizing units with
  | zero =>
    rw [Nat.zero_add]
    cases k with
    | zero => rfl
    | succ k =>
      exact (specWith_congr files (subD := fun _ => false) (subM := fun _ => []) (subM' := fun _ => [])
        (fun _ h => nomatch h) units (depthLeWith_of_noImp files _ hd)).1
  | succ d ih =>
    rw [Nat.succ_add]
    exact (specWith_congr files (subM := fun _ => []) (fun vs h => ⟨ih vs h, rfl⟩) units hd).1

example : compileFile Ex.files3 "lib.less" = (some ["l{}", "b{}"], [.missing "gone.less"]) := by
  have h := (C20_import_shallow_compile Ex.files3 "lib.less" _ rfl (by decide +kernel)).1
  rw [h]; decide +kernel
example : compileFile Ex.files3 "base.less" = (some ["b{}"], []) := by
  have h := (C20_import_shallow_compile Ex.files3 "base.less" _ rfl (by decide +kernel)).2.2 (by decide +kernel)
  rw [h]; decide +kernel
/-- the cycle is not shallow -/
example : depthLe Ex.files2 9 [.imp "a.less"] = false := by decide +kernel

/-! ### B3 errors are never dropped; only the level-9 parser aborts -/

/-- **C20_import_errs_only**: a parser of level < 9 is never aborted; its register is the
    concatenation of what was registered for each of its units — for an import: the register of the
    imported file's parser followed by `tooDeep` if that parser was aborted — so no registered error is
    ever dropped; and a compilation with an existing root always ends with an output and a register. -/
theorem C20_import_errs_only (files : Files) :
    (∀ b units, (loadUnits files (b + 1) units).1 ≠ none) ∧
    (∀ b us1 us2, (loadUnits files (b + 1) (us1 ++ us2)).2 =
      (loadUnits files (b + 1) us1).2 ++ (loadUnits files (b + 1) us2).2) ∧
    (∀ b t r, (loadUnits files b (.rule t :: r)).2 = (loadUnits files b r).2) ∧
    (∀ b f us r, findFileU files f = some us →
      (loadUnits files (b + 1) (.imp f :: r)).2 =
        (loadUnits files b us).2 ++ (if (loadUnits files b us).1.isNone then [.tooDeep] else []) ++
          (loadUnits files (b + 1) r).2) ∧
    (∀ b f r, findFileU files f = none →
      (loadUnits files (b + 1) (.imp f :: r)).2 = .missing f :: (loadUnits files (b + 1) r).2) ∧
    (∀ root units, findFileU files root = some units →
      ∃ out, compileFile files root = (some out, (loadUnits files 9 units).2)) := by
  refine ⟨fun b us h => ?_, fun b us1 us2 => by simp only [loadUnits_succ, missingWith_append],
    fun b t r => by rw [loadUnits_rule], fun b f us r hf => ?_, fun b f r hf => ?_,
    fun root us hr =>
      ⟨inlineWith files (subOut files 8) us, by simp only [compileFile, hr, loadUnits_succ]⟩⟩
  · rw [loadUnits_succ] at h; cases h
  · simp only [loadUnits_succ, missingWith, hf, subErrs]
  · simp only [loadUnits_succ, missingWith, hf]; rfl

example : ∃ out, compileFile Ex.files3 "main.less" = (some out, (loadUnits Ex.files3 9
    [.rule "m{}", .imp "lib.less", .imp "x.less"]).2) :=
  (C20_import_errs_only Ex.files3).2.2.2.2.2 "main.less" _ rfl
/-- the error of the library survives next to the error of the cycle, in traversal order -/
example : (compileFile Ex.files3 "main.less").2 = [.missing "gone.less", .tooDeep] := by
  simp [compileFile, Ex.files3, findFileU, loadUnits]
/-- a missing root is the only way to get no output -/
example : compileFile Ex.files3 "nope.less" = (none, [.missing "nope.less"]) := by decide +kernel

end Lessm.Term
