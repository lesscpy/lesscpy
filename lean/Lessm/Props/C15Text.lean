/-
  C15 / C12 on TEXT.  The three front-end models tied together:

    text ──`Lex0.front` (character-level lexer + `LessLexer.token` filter)──▶ tokens ──`LR.recognise` (validating driver)──▶ verdict

  F1  `front_is_filter`, `frontEnd_is_filter`, `front_types_eq_of_filter_eq` (from the general `front_is_filterE` and
        `filterFromE_is_filterFrom`, Lemmas/FrontLemmas.lean):
        the token types `front` hands to the parser are the type-level filter of C12 (`Lessm.Lex.filterFrom`) applied to the
        raw stream `front` meets — so the theorems of Props/C12.lean about `filterFrom` speak about the stream the parser
        gets from text;
  F2  `accepted_text_balanced`, `accepted_toks_balanced`, `unbalanced_text_rejected`, `unbalanced_text_rejected_any`:
        whatever the LR tables, a text the driver accepts has a token stream that is a sentence of the regenerated grammar
        and balanced in all four delimiter families (`C15_sound`, `C15_sentence_balanced_*` reused);
  F3  `front_brace_count` (and `front_paren_count`, `front_istr_count`, `front_estr_count`): the balance read as token counts
        (`brace_weight_is_count`, `paren_sum`, `sumT_pair` in Lemmas/FrontLemmas.lean);
  F4  `illegal_char_never_accepted`, `stuck_never_accepted`, `illegal_is_unmatched`, `front_illegal_is_unmatched`.

  Vocabulary (`Lessm/Lemmas/Lex0Lemmas.lean`):
    `escFlag st`            the lexer state is "escapequotes" or "escapeapostrophe";
    `rawUnderF tb sig last st s : List (Tok × Bool)`
                            the emitted raw tokens `front` meets, in order, lexed under `front`'s own state feedback (the same
                            recursion as `front`; blanks that `front` drops are in it, comments and the injected `;` are not),
                            each with `escFlag` of the lexer state right after it;
    `rawUnder … : List Tok` the tokens of `rawUnderF` alone;
  (`Lessm/Lemmas/FrontLemmas.lean`):
    `Lex.filterFromE`       `Lex.filterFrom` on flagged types: a `}` whose flag is set gets no `;` injected;
    `tokIds ts`             the terminal numbers (`Gen.terminals.idxOf`) of the types of `ts`;
    `Accepts tb sig action goto text`
                            `∃ ts, frontEnd tb sig text = .ok ts ∧ ts ≠ [] ∧ recognise Gen.prods action goto 0 Gen.startNt (tokIds ts) = .accept`
                            (decidable: `acceptsB`).
  Apart from the abbreviations `Ex.sg` and `Ex.raw`, only theorems and examples here.  The kernel lexes the example texts in
  `Ex.raws`, `Ex.broken`, `Ex.front_dollar` (and `Ex.lex_dollar` of Props/C12Lex.lean), several texts in one evaluation; the
  examples about those texts follow from these facts through the theorems.
-/
import Lessm.Lemmas.FrontLemmas
import Lessm.Props.C12
import Lessm.Props.C12Lex
import Lessm.Props.C15

namespace Lessm.Lex0.Ex

abbrev sg : List String := Lessm.Gen.significantWs

/-- the flagged types of the raw stream `front` meets on a text, under the rules of the source tree -/
abbrev raw (text : String) : List (String × Bool) :=
  (rawUnderF tb sg none {} text.toList).map (fun p => (p.1.type, p.2))

end Lessm.Lex0.Ex

namespace Lessm.Lex0
open Lessm.Rx Lessm.Cfg Lessm.LR

/-! ## F1  `front` is the type-level filter of C12 on the raw stream it meets -/

/-- **F1 `front_is_filter`**: if no `t_bclose` token of the raw stream leaves the lexer in an escape state, the types of
    the tokens `front` hands out are exactly `Lex.filterFrom` applied to the types of the raw stream. -/
theorem front_is_filter (tb : Tables) (sig : List String) (last : Option String) (st : LState) (s : List Char)
    (h : ∀ p ∈ rawUnderF tb sig last st s, p.1.type = "t_bclose" → p.2 = false) :
    (front tb sig last st s).toks.map (·.type)
      = Lessm.Lex.filterFrom sig last ((rawUnder tb sig last st s).map (·.type)) := by
  rw [front_is_filterE, filterFromE_is_filterFrom _ _ _ (List.forall_mem_map.mpr h), rawUnder_types_of_raw rfl]

/-- **F1 for a whole text**: `Lex.filter` (the filter from `pretok`) on the raw stream of the text. -/
theorem frontEnd_is_filter (tb : Tables) (sig : List String) (text : String)
    (h : ∀ p ∈ rawUnderF tb sig none {} text.toList, p.1.type = "t_bclose" → p.2 = false) :
    (frontEnd tb sig text).toks.map (·.type)
      = Lessm.Lex.filter sig ((rawUnder tb sig none {} text.toList).map (·.type)) :=
  front_is_filter tb sig none {} text.toList h

/-- the raw stream is made of tokens of the loop (nothing else is fed to the filter) -/
theorem rawUnder_fromStep (tb : Tables) (sig : List String) (last : Option String) (st : LState) (s : List Char) :
    ∀ t ∈ rawUnder tb sig last st s, FromStep tb t := by
  have h := front_fronts tb sig last st s
  rw [rawUnder]
  generalize front tb sig last st s = r, rawUnderF tb sig last st s = raw at h
  induction h with
  | nil | illegal | stuck => exact List.forall_mem_nil _
  | comment _ _ ih => exact ih
  | drop hstep _ _ ih | semi hstep _ _ _ ih | emit hstep _ _ _ ih =>
    rw [List.map_cons, List.forall_mem_cons]
    exact ⟨⟨_, _, _, _, _, hstep⟩, ih⟩

/-- **F1 transfer**: two inputs (texts, start states) whose raw type streams the filter of C12 does not distinguish hand
    the parser the same token types.  Every equation `filterFrom sig last a = filterFrom sig last b` of Props/C12.lean
    (`C12_run`, `C12_gap_tokens`, `C12_comment_in_gap`, `C12_boundary`, `C12_semi`, …) is a hypothesis `hf` of this. -/
theorem front_types_eq_of_filter_eq (tb : Tables) (sig : List String) (last : Option String) (st st2 : LState)
    (s s2 : List Char)
    (h : ∀ p ∈ rawUnderF tb sig last st s, p.1.type = "t_bclose" → p.2 = false)
    (h2 : ∀ p ∈ rawUnderF tb sig last st2 s2, p.1.type = "t_bclose" → p.2 = false)
    (hf : Lessm.Lex.filterFrom sig last ((rawUnder tb sig last st s).map (·.type))
        = Lessm.Lex.filterFrom sig last ((rawUnder tb sig last st2 s2).map (·.type))) :
    (front tb sig last st s).toks.map (·.type) = (front tb sig last st2 s2).toks.map (·.type) := by
  rw [front_is_filter _ _ _ _ _ h, front_is_filter _ _ _ _ _ h2, hf]

/-! non-vacuity on the real rules -/

/-- The texts most examples of this file are about are lexed here, in one evaluation; what the examples say about them
    follows from these raw streams by the theorems of this file. -/
theorem Ex.raws :
    Ex.raw ".a{b:c}" = [("css_class", false), ("t_bopen", false), ("css_property", false), ("t_colon", false),
      ("css_ident", false), ("t_bclose", false)] ∧
    Ex.raw ".a{b:c" = [("css_class", false), ("t_bopen", false), ("css_property", false), ("t_colon", false),
      ("css_ident", false)] ∧
    Ex.raw "a{b:~\"x}\";}" = [("css_dom", false), ("t_bopen", false), ("css_property", false), ("t_colon", false),
      ("t_eopen", true), ("css_ident", true), ("t_bclose", true), ("t_eclose", false), ("t_semicolon", false),
      ("t_bclose", false)] ∧
    Ex.raw ".a \n.b{}" = [("css_class", false), ("t_ws", false), ("t_ws", false), ("css_class", false), ("t_bopen", false),
      ("t_bclose", false)] ∧
    Ex.raw ".a .b{}" = [("css_class", false), ("t_ws", false), ("css_class", false), ("t_bopen", false),
      ("t_bclose", false)] := by decide +kernel

/-- the raw stream of ".a{b:c}": six tokens, none flagged -/
example : (rawUnderF Ex.tb Ex.sg none {} ".a{b:c}".toList).map (fun p => (p.1.type, p.2))
    = [("css_class", false), ("t_bopen", false), ("css_property", false), ("t_colon", false), ("css_ident", false),
       ("t_bclose", false)] := Ex.raws.1
/-- the hypothesis of `front_is_filter` holds there, and on the text left open -/
example : ∀ p ∈ rawUnderF Ex.tb Ex.sg none {} ".a{b:c}".toList, p.1.type = "t_bclose" → p.2 = false :=
  noFlag_of_types Ex.raws.1 (by decide +kernel)
example : ∀ p ∈ rawUnderF Ex.tb Ex.sg none {} ".a{b:c".toList, p.1.type = "t_bclose" → p.2 = false :=
  noFlag_of_types Ex.raws.2.1 (by decide +kernel)
/-- so the theorem applies; both sides are the seven types with the injected `;` -/
example : (frontEnd Ex.tb Ex.sg ".a{b:c}").toks.map (·.type)
    = Lessm.Lex.filter Ex.sg ((rawUnder Ex.tb Ex.sg none {} ".a{b:c}".toList).map (·.type)) :=
  frontEnd_is_filter _ _ _ (noFlag_of_types Ex.raws.1 (by decide +kernel))
example : Lessm.Lex.filter Ex.sg ((rawUnder Ex.tb Ex.sg none {} ".a{b:c}".toList).map (·.type))
    = ["css_class", "t_bopen", "css_property", "t_colon", "css_ident", "t_semicolon", "t_bclose"] := by
  rw [rawUnder_types_of_raw Ex.raws.1]
  decide +kernel
example : (frontEnd Ex.tb Ex.sg ".a{b:c").toks.map (·.type)
    = ["css_class", "t_bopen", "css_property", "t_colon", "css_ident"] := by
  rw [frontEnd_types_of_raw Ex.raws.2.1]
  decide +kernel
/-- blanks that `front` drops are in the raw stream -/
example : (rawUnder Ex.tb Ex.sg none {} " .a { b : c } ".toList).map (·.type)
    = ["t_ws", "css_class", "t_ws", "t_bopen", "t_ws", "css_property", "t_ws", "t_colon", "t_ws", "css_ident", "t_ws",
       "t_bclose", "t_ws"] := by decide +kernel
/-- the hypothesis of `front_is_filter` is needed: a `}` inside `~"…"` is flagged, `front` injects no `;` before it,
    `filterFrom` would; `filterFromE` (the general theorem) gets it right -/
example : (rawUnderF Ex.tb Ex.sg none {} "a{b:~\"x}\";}".toList).map (fun p => (p.1.type, p.2))
    = [("css_dom", false), ("t_bopen", false), ("css_property", false), ("t_colon", false), ("t_eopen", true),
       ("css_ident", true), ("t_bclose", true), ("t_eclose", false), ("t_semicolon", false), ("t_bclose", false)] :=
  Ex.raws.2.2.1
example : (frontEnd Ex.tb Ex.sg "a{b:~\"x}\";}").toks.map (·.type)
    = ["css_dom", "t_bopen", "css_property", "t_colon", "t_eopen", "css_ident", "t_bclose", "t_eclose", "t_semicolon",
       "t_bclose"] := by
  rw [frontEnd_types_of_raw Ex.raws.2.2.1]
  decide +kernel
example : Lessm.Lex.filter Ex.sg ((rawUnder Ex.tb Ex.sg none {} "a{b:~\"x}\";}".toList).map (·.type))
    = ["css_dom", "t_bopen", "css_property", "t_colon", "t_eopen", "css_ident", "t_semicolon", "t_bclose", "t_eclose",
       "t_semicolon", "t_bclose"] := by
  rw [rawUnder_types_of_raw Ex.raws.2.2.1]
  decide +kernel
/-- a theorem of Props/C12.lean read on text: by `C12_run` (a second blank changes nothing) ".a \n.b{}" and ".a .b{}"
    hand the parser the same types — proved through F1, not by evaluating `front` -/
example : (frontEnd Ex.tb Ex.sg ".a \n.b{}").toks.map (·.type) = (frontEnd Ex.tb Ex.sg ".a .b{}").toks.map (·.type) := by
  obtain ⟨-, -, -, raw1, raw2⟩ := Ex.raws
  refine front_types_eq_of_filter_eq _ _ _ _ _ _ _ (noFlag_of_types raw1 (by decide +kernel))
    (noFlag_of_types raw2 (by decide +kernel)) ?_
  rw [rawUnder_types_of_raw raw1, rawUnder_types_of_raw raw2]
  exact Lessm.Lex.filterFrom_append_congr
    (fun last => Lessm.Lex.C12_run (sig := Ex.sg) (by decide +kernel) last _) none ["css_class"]

/-! ## F2  accepted text is a balanced sentence, whatever the tables -/

/-- **F2 `accepted_text_balanced`**: for ANY tables `action`, `goto` (in particular the regenerated LALR ones): if the
    text is accepted, its token ids are a sentence of the regenerated grammar, and hence balanced — total weight zero
    and no prefix negative — in braces, parentheses, interpolated-string and escape delimiters. -/
theorem accepted_text_balanced (tb : Tables) (sig : List String) (action goto : Table) (text : String)
    (h : Accepts tb sig action goto text) :
    ∃ ts, frontEnd tb sig text = .ok ts ∧ ts ≠ [] ∧
      Derives Lessm.Gen.grammar (.nt Lessm.Gen.startNt) (tokIds ts) ∧
      balanced (look Lessm.Gen.braceTw) (tokIds ts) = true ∧ balanced (look Lessm.Gen.parenTw) (tokIds ts) = true ∧
      balanced (look Lessm.Gen.istrTw) (tokIds ts) = true ∧ balanced (look Lessm.Gen.estrTw) (tokIds ts) = true := by
  obtain ⟨ts, h1, h2, h3⟩ := h
  have hd : Derives Lessm.Gen.grammar (.nt Lessm.Gen.startNt) (tokIds ts) := C15_sound _ _ _ _ _ _ h3
  exact ⟨ts, h1, h2, hd, C15_sentence_balanced_brace hd, C15_sentence_balanced_paren hd,
    C15_sentence_balanced_istr hd, C15_sentence_balanced_estr hd⟩

/-- the same about `(frontEnd tb sig text).toks` (no existential) -/
theorem accepted_toks_balanced (tb : Tables) (sig : List String) (action goto : Table) (text : String)
    (h : Accepts tb sig action goto text) :
    Derives Lessm.Gen.grammar (.nt Lessm.Gen.startNt) (tokIds (frontEnd tb sig text).toks) ∧
      balanced (look Lessm.Gen.braceTw) (tokIds (frontEnd tb sig text).toks) = true ∧
      balanced (look Lessm.Gen.parenTw) (tokIds (frontEnd tb sig text).toks) = true ∧
      balanced (look Lessm.Gen.istrTw) (tokIds (frontEnd tb sig text).toks) = true ∧
      balanced (look Lessm.Gen.estrTw) (tokIds (frontEnd tb sig text).toks) = true := by
  obtain ⟨ts, h1, -, h3⟩ := accepted_text_balanced tb sig action goto text h
  rw [h1]
  exact h3

/-- **F2 `unbalanced_text_rejected`**: if the brace weights (`Gen.braceTw`, the weight function of C15) of the tokens of
    a text do not sum to zero, the driver does not accept the text, for any tables. -/
theorem unbalanced_text_rejected (tb : Tables) (sig : List String) (action goto : Table) (text : String)
    (h : sumT (look Lessm.Gen.braceTw) (tokIds (frontEnd tb sig text).toks) ≠ 0) :
    ¬ Accepts tb sig action goto text := by
  intro hacc
  exact h ((balanced_iff _ _).mp (accepted_toks_balanced tb sig action goto text hacc).2.1).1

/-- the same with the executable check of C15, for any of the four families (a negative prefix counts too) -/
theorem unbalanced_text_rejected_any (tb : Tables) (sig : List String) (action goto : Table) (text : String)
    (h : (balanced (look Lessm.Gen.braceTw) (tokIds (frontEnd tb sig text).toks)
          && balanced (look Lessm.Gen.parenTw) (tokIds (frontEnd tb sig text).toks)
          && balanced (look Lessm.Gen.istrTw) (tokIds (frontEnd tb sig text).toks)
          && balanced (look Lessm.Gen.estrTw) (tokIds (frontEnd tb sig text).toks)) = false) :
    ¬ Accepts tb sig action goto text := by
  intro hacc
  obtain ⟨-, h1, h2, h3, h4⟩ := accepted_toks_balanced tb sig action goto text hacc
  rw [h1, h2, h3, h4] at h
  cases h

/-- `Accepts` is decidable (given tables), by running the two models -/
theorem accepts_iff_run (tb : Tables) (sig : List String) (action goto : Table) (text : String) :
    Accepts tb sig action goto text ↔ acceptsB tb sig action goto text = true :=
  accepts_iff tb sig action goto text

/-! non-vacuity.  `LR.decode` of the regenerated tables is not kernel-reducible (Props/C15.lean) and an excerpt of them would
    hard-code LALR state numbers that change with every harmless edit of the grammar; that `Accepts` holds of real texts on the real
    tables is what the correspondence run (driver op c15.text) shows on every fixture.  Here the theorems are instantiated with
    abstract tables on broken texts. -/

theorem Ex.open_sum : sumT (look Lessm.Gen.braceTw) (tokIds (frontEnd Ex.tb Ex.sg ".a{b:c").toks) = 1 := by
  rw [brace_weight_is_count, countP_type, countP_type, frontEnd_types_of_raw Ex.raws.2.1]
  decide +kernel
example : sumT (look Lessm.Gen.braceTw) (tokIds (frontEnd Ex.tb Ex.sg ".a{b:c").toks) = 1 := Ex.open_sum
/-- no tables accept ".a{b:c": the brace weights of its five tokens sum to 1 -/
example (action goto : Table) : ¬ Accepts Ex.tb Ex.sg action goto ".a{b:c" :=
  unbalanced_text_rejected _ _ _ _ _ (by rw [Ex.open_sum]; decide)
/-- four broken texts, lexed in one evaluation: a weight sum that is not zero; a weight sum that is zero; the executable
    check fails -/
theorem Ex.broken :
    sumT (look Lessm.Gen.braceTw) (tokIds (frontEnd Ex.tb Ex.sg ".a{b:c}}").toks) ≠ 0 ∧
    sumT (look Lessm.Gen.braceTw) (tokIds (frontEnd Ex.tb Ex.sg "}.a{b:c").toks) = 0 ∧
    ∀ text ∈ ["}.a{b:c", ".a{b:f(c}", ".a{b:~\"c}"],
      (balanced (look Lessm.Gen.braceTw) (tokIds (frontEnd Ex.tb Ex.sg text).toks)
        && balanced (look Lessm.Gen.parenTw) (tokIds (frontEnd Ex.tb Ex.sg text).toks)
        && balanced (look Lessm.Gen.istrTw) (tokIds (frontEnd Ex.tb Ex.sg text).toks)
        && balanced (look Lessm.Gen.estrTw) (tokIds (frontEnd Ex.tb Ex.sg text).toks)) = false := by
  decide +kernel
/-- a stray `}` (sum −1, and a negative prefix), an unclosed `(`, an unclosed `~"`: rejected by any tables -/
example (action goto : Table) :
    ¬ Accepts Ex.tb Ex.sg action goto ".a{b:c}}" ∧ ¬ Accepts Ex.tb Ex.sg action goto "}.a{b:c" ∧
    ¬ Accepts Ex.tb Ex.sg action goto ".a{b:f(c}" ∧ ¬ Accepts Ex.tb Ex.sg action goto ".a{b:~\"c}" :=
  ⟨unbalanced_text_rejected _ _ _ _ _ Ex.broken.1, unbalanced_text_rejected_any _ _ _ _ _ (Ex.broken.2.2 _ (by simp)),
   unbalanced_text_rejected_any _ _ _ _ _ (Ex.broken.2.2 _ (by simp)),
   unbalanced_text_rejected_any _ _ _ _ _ (Ex.broken.2.2 _ (by simp))⟩
/-- "}.a{b:c" has weight sum zero: only the prefix condition catches it -/
example : sumT (look Lessm.Gen.braceTw) (tokIds (frontEnd Ex.tb Ex.sg "}.a{b:c").toks) = 0 := Ex.broken.2.1

/-! ## F3  the balance as token counts -/

/-- **F3 `front_brace_count`**: in the tokens of an accepted text there are as many of type "t_bopen" as of type
    "t_bclose", and in no prefix more "t_bclose" than "t_bopen". -/
theorem front_brace_count (tb : Tables) (sig : List String) (action goto : Table) (text : String)
    (h : Accepts tb sig action goto text) :
    ∃ ts, frontEnd tb sig text = .ok ts ∧
      ts.countP (fun t => t.type == "t_bopen") = ts.countP (fun t => t.type == "t_bclose") ∧
      ∀ k, (ts.take k).countP (fun t => t.type == "t_bclose") ≤ (ts.take k).countP (fun t => t.type == "t_bopen") := by
  obtain ⟨ts, h1, -, -, hb, -⟩ := accepted_text_balanced tb sig action goto text h
  exact ⟨ts, h1, counts_of_balanced (opens := countTy "t_bopen") (closes := countTy "t_bclose") brace_weight_is_count hb⟩

/-- parentheses: "t_popen" and "less_open_format" (the `%(` of a format call) open, "t_pclose" closes -/
theorem front_paren_count (tb : Tables) (sig : List String) (action goto : Table) (text : String)
    (h : Accepts tb sig action goto text) :
    ∃ ts, frontEnd tb sig text = .ok ts ∧
      ts.countP (fun t => t.type == "less_open_format") + ts.countP (fun t => t.type == "t_popen")
        = ts.countP (fun t => t.type == "t_pclose") ∧
      ∀ k, (ts.take k).countP (fun t => t.type == "t_pclose")
        ≤ (ts.take k).countP (fun t => t.type == "less_open_format") + (ts.take k).countP (fun t => t.type == "t_popen") := by
  obtain ⟨ts, h1, -, -, -, hp, -⟩ := accepted_text_balanced tb sig action goto text h
  exact ⟨ts, h1, counts_of_balanced
    (opens := fun ts => countTy "less_open_format" ts + countTy "t_popen" ts) (closes := countTy "t_pclose")
    (fun ts => by rw [paren_sum]; simp only [Int.natCast_add]) hp⟩

/-- interpolated strings: "t_isopen" / "t_isclose" -/
theorem front_istr_count (tb : Tables) (sig : List String) (action goto : Table) (text : String)
    (h : Accepts tb sig action goto text) :
    ∃ ts, frontEnd tb sig text = .ok ts ∧
      ts.countP (fun t => t.type == "t_isopen") = ts.countP (fun t => t.type == "t_isclose") ∧
      ∀ k, (ts.take k).countP (fun t => t.type == "t_isclose") ≤ (ts.take k).countP (fun t => t.type == "t_isopen") := by
  obtain ⟨ts, h1, -, -, -, -, hi, -⟩ := accepted_text_balanced tb sig action goto text h
  exact ⟨ts, h1, counts_of_balanced (opens := countTy "t_isopen") (closes := countTy "t_isclose")
    (sumT_pair tw_names.2.2.1 (by simp)) hi⟩

/-- escapes: "t_eopen" / "t_eclose" -/
theorem front_estr_count (tb : Tables) (sig : List String) (action goto : Table) (text : String)
    (h : Accepts tb sig action goto text) :
    ∃ ts, frontEnd tb sig text = .ok ts ∧
      ts.countP (fun t => t.type == "t_eopen") = ts.countP (fun t => t.type == "t_eclose") ∧
      ∀ k, (ts.take k).countP (fun t => t.type == "t_eclose") ≤ (ts.take k).countP (fun t => t.type == "t_eopen") := by
  obtain ⟨ts, h1, -, -, -, -, -, he⟩ := accepted_text_balanced tb sig action goto text h
  exact ⟨ts, h1, counts_of_balanced (opens := countTy "t_eopen") (closes := countTy "t_eclose")
    (sumT_pair tw_names.2.2.2 (by simp)) he⟩

/-- the weight tables are what the counting theorems assume (re-checked on every regeneration) -/
example : Lessm.Gen.braceTw = [(Lessm.Gen.terminals.idxOf "t_bclose", -1), (Lessm.Gen.terminals.idxOf "t_bopen", 1)] :=
  tw_names.1.1
example : (frontEnd Ex.tb Ex.sg ".a{b:c}").toks.countP (fun t => t.type == "t_bopen") = 1
    ∧ (frontEnd Ex.tb Ex.sg ".a{b:c}").toks.countP (fun t => t.type == "t_bclose") = 1 := by
  rw [countP_type, countP_type, frontEnd_types_of_raw Ex.raws.1]
  decide +kernel
/-- and the counts can differ: the text left open has one `{` and no `}` -/
example : (frontEnd Ex.tb Ex.sg ".a{b:c").toks.countP (fun t => t.type == "t_bopen") = 1
    ∧ (frontEnd Ex.tb Ex.sg ".a{b:c").toks.countP (fun t => t.type == "t_bclose") = 0 := by
  rw [countP_type, countP_type, frontEnd_types_of_raw Ex.raws.2.1]
  decide +kernel

/-! ## F4  illegal characters -/

/-- **F4 `illegal_char_never_accepted`**: a text on which the lexer raises (t_error) is not accepted, whatever the tables
    (by the definition of `Accepts`: the driver is never run). -/
theorem illegal_char_never_accepted (tb : Tables) (sig : List String) (action goto : Table) (text : String)
    (ts : List Tok) (c : Char) (l : Nat) (h : frontEnd tb sig text = .illegal ts c l) :
    ¬ Accepts tb sig action goto text := by
  rintro ⟨ts', h1, -⟩
  rw [h] at h1
  cases h1

/-- the same for a stuck lexer (impossible with the rules of the source tree: `front_never_stuck_gen`) -/
theorem stuck_never_accepted (tb : Tables) (sig : List String) (action goto : Table) (text : String)
    (ts : List Tok) (h : frontEnd tb sig text = .stuck ts) : ¬ Accepts tb sig action goto text := by
  rintro ⟨ts', h1, -⟩
  rw [h] at h1
  cases h1

/-- **F4 `illegal_is_unmatched`**: if `lexAll` stops with `illegal items c l`, the input is the characters of `items`,
    then `c`, then a rest; in the lexer state reached behind `items` (the state after the last item, `st` if there is
    none) no rule of that state, nor of INITIAL, matches at `c …` (so in particular none "matches emptily": that would be
    `stuck`), `c` is not a literal, and `l` is the line counter there. -/
theorem illegal_is_unmatched (tb : Tables) (st : LState) (s : List Char) (items : List Item) (c : Char) (l : Nat)
    (h : lexAll tb st s = .illegal items c l) :
    ∃ rest, s = items.flatMap (fun it => it.1.lexeme.toList) ++ c :: rest ∧
      firstMatch (rulesOf tb ((items.getLast?.map (·.2.2)).getD st).cur) (c :: rest) = none ∧
      (∀ r ∈ rulesOf tb ((items.getLast?.map (·.2.2)).getD st).cur, r.re.matchPrefix (c :: rest) = none) ∧
      c ∉ tb.literals ∧ l = ((items.getLast?.map (·.2.2)).getD st).lineno := by
  obtain ⟨_, h1, -, h3⟩ := (h ▸ lexAll_lexes tb st s).partition
  obtain ⟨⟨rest, rfl⟩, h2, hc, hl⟩ := step_illegal (h3 _ _ _ rfl)
  rw [endState_eq_getLast] at h2 hl
  exact ⟨rest, h1, h2, firstMatch_none h2, hc, hl⟩

/-- the same for the stream the parser sees: the text splits at `c`, the characters of the tokens handed out so far are
    a subsequence of what lies before `c`, and in the lexer state reached there no rule matches and `c` is no literal. -/
theorem front_illegal_is_unmatched (tb : Tables) (sig : List String) (last : Option String) (st : LState)
    (s : List Char) (ts : List Tok) (c : Char) (l : Nat) (h : front tb sig last st s = .illegal ts c l) :
    ∃ (pre rest : List Char) (st1 : LState), s = pre ++ c :: rest ∧
      (ts.flatMap (fun t => t.lexeme.toList)).Sublist pre ∧
      (∀ r ∈ rulesOf tb st1.cur, r.re.matchPrefix (c :: rest) = none) ∧ c ∉ tb.literals ∧ l = st1.lineno := by
  obtain ⟨pre, _, h1, h2, h3⟩ := (h ▸ front_fronts tb sig last st s).consumed
  obtain ⟨st1, hstep⟩ := h3 _ _ _ rfl
  obtain ⟨⟨rest, rfl⟩, hf, h45⟩ := step_illegal hstep
  exact ⟨pre, rest, st1, h1, h2, firstMatch_none hf, h45⟩

/-- "a{b:c}$x": the lexer stops at `$` on line 1, in state INITIAL, behind the six tokens of "a{b:c}" -/
example : (match lexAll Ex.tb {} "a{b:c}$x".toList with
    | .illegal items c l => items.flatMap (fun it => it.1.lexeme.toList) == "a{b:c}".toList && c == '$' && l == 1
        && ((items.getLast?.map (fun (it : Item) => it.2.2)).getD {}).cur == "INITIAL"
        && (rulesOf Ex.tb "INITIAL").all (fun r => (r.re.matchPrefix "$x".toList).isNone)
        && !Ex.tb.literals.contains '$'
    | _ => false) = true := by
  -- the statement of `Ex.lex_dollar` (Props/C12Lex.lean), but the `match` is another constant in this module: `exact` would
  -- compare the two by lexing the text again
  have h := Ex.lex_dollar
  split at h
  · next heq =>
    rw [heq]
    exact h
  · cases h
example (items : List Item) (c : Char) (l : Nat) (h : lexAll Ex.tb {} "a{b:c}$x".toList = .illegal items c l) :
    c ∉ Ex.tb.literals :=
  let ⟨_, _, _, _, hc, _⟩ := illegal_is_unmatched _ _ _ _ _ _ h
  hc
/-- `frontEnd` on "a{b:c}$x", evaluated once: seven tokens, then the illegal `$` on line 1 -/
theorem Ex.front_dollar : (match frontEnd Ex.tb Ex.sg "a{b:c}$x" with
    | .illegal ts c l => ts.map (·.type) == ["css_dom", "t_bopen", "css_property", "t_colon", "css_ident", "t_semicolon",
        "t_bclose"] && c == '$' && l == 1
    | _ => false) = true := by decide +kernel
/-- the stream the parser would see breaks off there, and the text is not accepted by any tables -/
example : (match frontEnd Ex.tb Ex.sg "a{b:c}$x" with
    | .illegal ts c l => ts.map (·.type) == ["css_dom", "t_bopen", "css_property", "t_colon", "css_ident", "t_semicolon",
        "t_bclose"] && c == '$' && l == 1
    | _ => false) = true := Ex.front_dollar
example (action goto : Table) : ¬ Accepts Ex.tb Ex.sg action goto "a{b:c}$x" := by
  have h := Ex.front_dollar
  split at h
  · next heq => exact illegal_char_never_accepted _ _ _ _ _ _ _ _ heq
  · cases h
/-- a literal character is not illegal -/
example : (match lexAll Ex.tb {} "a{b:c}%".toList with | .ok items => items.length == 7 | _ => false) = true := by
  decide +kernel

end Lessm.Lex0
