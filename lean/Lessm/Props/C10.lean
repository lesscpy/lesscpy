/-
  C10  The output is plain CSS and a fixpoint of the compiler.

  "Successful output contains no LESS construct: no variable reference or definition, no mixin
   definition or call, no guard, no &, and no rule nested in a rule other than inside an at-rule
   block. Compiling the output again with the same options returns it unchanged, and compiling it with
   other options returns what the original source gives with those options."

  Vocabulary: `Lessm/Spec/FixSpec.lean` (`embed`: the source item a plain-CSS reading of an output
  rule denotes; `CanonOut`: the outputs that are read back token by token; `SourceOK`: well-formed
  sources).  Helper lemmas about selectors: `Lessm/Lemmas/FixLemmas.lean`; the few about `flat`, `embed` and
  `Interleaves` stand here, in front of their one use.  Plain rules: `Lessm/Props/C01.lean`.  Printing: `Lessm/Props/C11.lean`.
-/
import Lessm.Lemmas.FixLemmas
import Lessm.Props.C01
import Lessm.Props.C11

namespace Lessm.Nest
open Lessm.Sel

/-! ### (1) the output type has no LESS construct

  `compileSheet : List Item → List OutRule`, and an `OutRule` is a structure of a selector list
  (`List Sel`, token lists) and a declaration list: there is no constructor for a nested rule, a
  variable, a mixin definition, a call or a guard.  So the statement is a typing fact; what is left to
  prove is that no empty rule is emitted (`C10_flat`) and that no `&` token is left (`C10_out_canon`:
  `canonTok` excludes `&`). -/

/-- **C10_type**: every element of the output is a pair (selector list, declaration list). -/
theorem C10_type (sheet : List Item) :
    ∀ r ∈ compileSheet sheet, ∃ (sels : List Sel) (decls : List Decl), r = ⟨sels, decls⟩ :=
  fun r _ => ⟨r.sels, r.decls, rfl⟩

mutual
theorem flat_decls_ne (p : Option (List Sel)) : ∀ t : Item, ∀ r ∈ flat p t, r.decls ≠ []
  | .decl _ => by simp [flat]
  | .rule sel body => by
      intro r hr
      rcases mem_flat_rule.mp hr with ⟨h, rfl⟩ | hr
      · exact h
      · exact flatList_decls_ne _ body r hr
theorem flatList_decls_ne (p : Option (List Sel)) : ∀ ts : List Item, ∀ r ∈ flatList p ts, r.decls ≠ []
  | [] => by simp [flatList]
  | i :: is => by
      intro r hr
      rw [flatList, List.mem_append] at hr
      exact hr.elim (flat_decls_ne p i r) (flatList_decls_ne p is r)
end

/-- **C10_flat**: no empty rule is emitted: every output rule has at least one declaration. -/
theorem C10_flat (sheet : List Item) : ∀ r ∈ compileSheet sheet, r.decls ≠ [] := by
  rw [C02_sheet]; exact flatList_decls_ne none sheet

/-! ### (2) reading the output back and compiling it again returns it unchanged -/

theorem declsOfBody_map_decl (ds : List Decl) : declsOfBody (ds.map Item.decl) = ds := by
  induction ds with
  | nil => rfl
  | cons d r ih => simp [declsOfBody, ih]

theorem embed_plain (out : List OutRule) : (embed out).all PlainRule = true := by
  simp [embed, embedRule, PlainRule]

/-- **C10_sel_fix** (the core, with the minimal hypotheses): a non-empty list of selectors whose tokens
    are canonical and that have no `" "` before an encoded combinator or at the end is parsed back to
    itself from its comma-joined, combinator-decoded token list. -/
theorem C10_sel_fix (sels : List Sel) (hne : sels ≠ [])
    (hs : ∀ s ∈ sels, s.all canonTok = true ∧ noSpaceBeforeEnc s = true) :
    identParse none (joinSels sels) = sels := by
  obtain ⟨s, r, rfl⟩ := List.exists_cons_of_ne_nil hne
  rw [C01_no_parent, encode, encodeLoop_joinSels s r [] hs]
  exact (List.map_congr_left fun x hx => pairwiseFilter_id x (hs x hx).2).trans (List.map_id _)

/-- reading back needs less than `CanonOut`: declarations, selectors, canonical tokens and no space in
    front of an encoded combinator (no condition on what follows one, on double spaces or on the first
    token) -/
theorem compileSheet_embed (out : List OutRule)
    (h : ∀ r ∈ out, r.decls ≠ [] ∧ r.sels ≠ [] ∧
      ∀ s ∈ r.sels, s.all canonTok = true ∧ noSpaceBeforeEnc s = true) :
    compileSheet (embed out) = out := by
  rw [C01_rules _ (embed_plain out)]
  induction out with
  | nil => rfl
  | cons r rs ih =>
    obtain ⟨⟨hd, hs, hc⟩, hrest⟩ := List.forall_mem_cons.mp h
    have ih' := ih hrest
    simp only [embed, List.map_cons, List.flatMap_cons, embedRule, declsOfBody_map_decl, hd, if_false,
      C10_sel_fix r.sels hs hc] at ih' ⊢
    rw [ih']; rfl

/-- **C10_fix**: a canonical output, read back as plain CSS and compiled again, is returned unchanged:
    same rules, same order, same selectors, same declarations. -/
theorem C10_fix (out : List OutRule) (h : CanonOut out = true) : compileSheet (embed out) = out :=
  compileSheet_embed out fun r hr => by
    have := List.all_eq_true.mp h r hr
    simp only [Bool.and_eq_true, Bool.not_eq_true', List.isEmpty_eq_false_iff, List.all_eq_true] at this
    refine ⟨this.1.1, this.1.2, fun s hs => ?_⟩
    have := this.2 s hs
    simp only [CanonSel, Bool.and_eq_true, and_assoc] at this
    obtain ⟨-, hcan, hnsb, -⟩ := this
    exact ⟨hcan, hnsb⟩

/-! ### (3) the outputs of well-formed sources are canonical -/

/-- **C10_out_strong**: for a well-formed source every output rule has declarations and a non-empty
    selector list whose members are canonical and do not end in an encoded combinator (the invariant
    that nesting preserves: `StrongSel`).  General case: any depth, `&` (any number per selector),
    selector lists, combinators. -/
theorem C10_out_strong (sheet : List Item) (h : SourceOK sheet = true) :
    ∀ r ∈ compileSheet sheet, r.decls ≠ [] ∧ r.sels ≠ [] ∧ ∀ s ∈ r.sels, StrongSel s := by
  intro r hr
  refine ⟨C10_flat sheet r hr, ?_⟩
  rw [C02_sheet] at hr
  exact flatList_strong none trivial sheet h r hr

/-- **C10_out_canon**: the output of a well-formed source is canonical. -/
theorem C10_out_canon (sheet : List Item) (h : SourceOK sheet = true) :
    CanonOut (compileSheet sheet) = true := by
  simp only [CanonOut, List.all_eq_true, Bool.and_eq_true, Bool.not_eq_true', List.isEmpty_eq_false_iff]
  intro r hr
  obtain ⟨h1, h2, h3⟩ := C10_out_strong sheet h r hr
  exact ⟨⟨h1, h2⟩, fun s hs => (h3 s hs).canon⟩

/-- **C10_no_amp_tok**: in particular no `&`, no `,`, no raw combinator token is left in a selector. -/
theorem C10_no_amp_tok (sheet : List Item) (h : SourceOK sheet = true) :
    ∀ r ∈ compileSheet sheet, ∀ s ∈ r.sels, ∀ t ∈ s, t ≠ "&" ∧ t ≠ "," ∧ isComb t = false := by
  intro r hr s hs t ht
  obtain ⟨hcomma, hamp, -, hcomb, -⟩ :=
    canonTok_spec (List.all_eq_true.mp ((C10_out_strong sheet h r hr).2.2 s hs).canonToks t ht)
  exact ⟨hamp, hcomma, hcomb⟩

/-- **C10_idem**: compiling the compiled output again returns it unchanged. -/
theorem C10_idem (sheet : List Item) (h : SourceOK sheet = true) :
    compileSheet (embed (compileSheet sheet)) = compileSheet sheet :=
  C10_fix _ (C10_out_canon sheet h)

def exOut : List OutRule :=
  [⟨[[".a", "?>?", ".b"], ["p"]], [⟨"x", "1"⟩]⟩,
   ⟨[[".a", "?>?", ".b", ":hover"], ["p", ":hover"], [".a", "?>?", ".b", "?+?", "q"], ["p", "?+?", "q"]],
     [⟨"y", "2"⟩]⟩]

private theorem exOut_canon : CanonOut exOut = true := by decide +kernel

example : CanonOut exOut = true := exOut_canon
example : embed exOut =
    [.rule [".a", ">", ".b", ",", "p"] [.decl ⟨"x", "1"⟩],
     .rule [".a", ">", ".b", ":hover", ",", "p", ":hover", ",", ".a", ">", ".b", "+", "q", ",", "p", "+", "q"]
       [.decl ⟨"y", "2"⟩]] := by rfl
example : compileSheet (embed exOut) = exOut := C10_fix exOut exOut_canon

def exSrc2 : List Item :=
  [.rule [".a", " ", ">", ".b", ",", "p", " "]
     [.decl ⟨"x", "1"⟩,
      .rule ["&", ":hover", ",", "+", "q", " "] [.decl ⟨"y", "2"⟩,
        .rule [".c", " ", "&"] [.decl ⟨"z", "3"⟩]]],
   .rule ["div"] []]

private theorem exSrc2_ok : SourceOK exSrc2 = true := by decide +kernel

example : SourceOK exSrc2 = true := exSrc2_ok
example : (compileSheet exSrc2).take 2 = exOut := by decide +kernel
example : compileSheet (embed (compileSheet exSrc2)) = compileSheet exSrc2 := C10_idem exSrc2 exSrc2_ok
/-- the same by evaluation -/
example : compileSheet (embed (compileSheet exSrc2)) = compileSheet exSrc2 := by decide +kernel

/-! The hypotheses are needed. -/

/-- a selector with a raw combinator token is not read back to itself … -/
example : compileSheet (embed [⟨[[".a", ">", ".b"]], [⟨"x", "1"⟩]⟩]) = [⟨[[".a", "?>?", ".b"]], [⟨"x", "1"⟩]⟩] := by
  decide +kernel
/-- … nor one with a `" "` before an encoded combinator, or at the end … -/
example : compileSheet (embed [⟨[[".a", " ", "?>?", ".b", " "]], [⟨"x", "1"⟩]⟩]) = [⟨[[".a", "?>?", ".b"]], [⟨"x", "1"⟩]⟩] := by
  decide +kernel
/-- … nor a rule without declarations, nor one without selectors. -/
example : compileSheet (embed [⟨[[".a"]], []⟩]) = [] := by decide +kernel
example : compileSheet (embed [⟨[], [⟨"x", "1"⟩]⟩]) = [⟨[[]], [⟨"x", "1"⟩]⟩] := by decide +kernel

/-- `SourceOK` is needed for `C10_out_canon`: a parent selector ending in a combinator leaves a `" "`
    after the encoded combinator (printed as `.a > .b`, read back without that token) -/
example : compileSheet [.rule [".a", " ", ">"] [.rule [".b"] [.decl ⟨"x", "1"⟩]]]
      = [⟨[[".a", "?>?", " ", ".b"]], [⟨"x", "1"⟩]⟩]
    ∧ CanonOut [⟨[[".a", "?>?", " ", ".b"]], [⟨"x", "1"⟩]⟩] = false
    ∧ SourceOK [.rule [".a", " ", ">"] [.rule [".b"] [.decl ⟨"x", "1"⟩]]] = false := by decide +kernel
/-- a top-level `&` stays in the output -/
example : compileSheet [.rule ["&", ".b"] [.decl ⟨"x", "1"⟩]] = [⟨[["&", ".b"]], [⟨"x", "1"⟩]⟩]
    ∧ SourceOK [.rule ["&", ".b"] [.decl ⟨"x", "1"⟩]] = false := by decide +kernel
/-- a token that merely contains `?` is harmless: the descendant space before it is kept, the output is
    canonical and the source is well formed (only tokens of the shape `?c?` are excluded) -/
example : compileSheet [.rule [".a", " ", "[h=\"?\"]"] [.decl ⟨"x", "1"⟩]] = [⟨[[".a", " ", "[h=\"?\"]"]], [⟨"x", "1"⟩]⟩]
    ∧ SourceOK [.rule [".a", " ", "[h=\"?\"]"] [.decl ⟨"x", "1"⟩]] = true
    ∧ CanonOut [⟨[[".a", " ", "[h=\"?\"]"]], [⟨"x", "1"⟩]⟩] = true := by
  decide +kernel
/-- a source token of the shape `?c?` is taken for an encoded combinator: the space before it is dropped
    and it is read back as a combinator; `SourceOK` excludes it -/
example : compileSheet [.rule [".a", " ", "?x?"] [.decl ⟨"x", "1"⟩]] = [⟨[[".a", "?x?"]], [⟨"x", "1"⟩]⟩]
    ∧ SourceOK [.rule [".a", " ", "?x?"] [.decl ⟨"x", "1"⟩]] = false := by
  decide +kernel

end Lessm.Nest

namespace Lessm.Print

/-! ### (4) every character of a rendering is whitespace or comes from a token of the output tree -/

theorem Interleaves.mem {ts : List String} {s : String} (h : Interleaves ts s) :
    ∀ c ∈ s.toList, isWs c = true ∨ ∃ t ∈ ts, c ∈ t.toList := by
  induction h with
  | nil g hg => exact fun c hc => .inl (List.all_eq_true.1 hg c hc)
  | cons g t ts s hg _ ih =>
    intro c hc
    simp only [String.toList_append, List.mem_append] at hc
    rcases hc with (hc | hc) | hc
    · exact .inl (List.all_eq_true.1 hg c hc)
    · exact .inr ⟨t, by simp, hc⟩
    · exact (ih c hc).imp_right fun ⟨t', ht', h'⟩ => ⟨t', by simp [ht'], h'⟩

/-- **C10_print_clean**: a printed character is whitespace or a character of a token of the layout. -/
theorem C10_print_clean (o : Opts) (l : List Lay) :
    ∀ c ∈ (realise (fills o) l).toList, isWs c = true ∨ ∃ t ∈ toks l, c ∈ t.toList :=
  (C11_erase o l).mem

/-- **C10_format_clean**: the same for the printed text of a (clean) output tree. -/
theorem C10_format_clean (o : Opts) (sheet : List Node) (h : Clean sheet = true) :
    ∀ c ∈ (format o sheet).toList, isWs c = true ∨ ∃ t ∈ toks (laySheet sheet), c ∈ t.toList := by
  rw [C11_layout o sheet h, strip, String.toList_ofList]
  exact fun c hc => C10_print_clean o _ c ((List.trim_sublist isWs _).subset hc)

/-- a non-whitespace character that no token contains is not printed -/
theorem C10_no_char (o : Opts) (l : List Lay) (c : Char) (hw : isWs c = false)
    (h : ∀ t ∈ toks l, c ∉ t.toList) : c ∉ (realise (fills o) l).toList := by
  intro hc
  rcases C10_print_clean o l c hc with h1 | ⟨t, ht, hct⟩
  · exact Bool.noConfusion (hw.symm.trans h1)
  · exact h t ht hct

/-- **C10_no_amp**: if no token of the layout contains `&`, the rendering contains no `&`. -/
theorem C10_no_amp (o : Opts) (l : List Lay) (h : ∀ t ∈ toks l, '&' ∉ t.toList) :
    '&' ∉ (realise (fills o) l).toList := C10_no_char o l '&' (by decide) h

/-- **C10_no_at**: the same for `@`: the only `@` of an output are those of tokens of the output tree
    (at-rule keywords, string contents). -/
theorem C10_no_at (o : Opts) (l : List Lay) (h : ∀ t ∈ toks l, '@' ∉ t.toList) :
    '@' ∉ (realise (fills o) l).toList := C10_no_char o l '@' (by decide) h

/-! ### (5) other options

  `format o sheet` is a function of the option vector and the output tree only (function application:
  `C10_tree_only`), so "compiling the output with other options" prints the tree the output was read
  back to — by `C10_fix` the same tree — under those options; and `C11_layout` says what that is. -/

/-- **C10_other_options**: whichever option vector `o₁` produced the text the tree was read from,
    printing under `o₂` gives the layout of the tree realised with the fills of `o₂`; the two texts
    are equal once whitespace is erased (`C11_format_erase`). -/
theorem C10_other_options (o₁ o₂ : Opts) (sheet : List Node) (h : Clean sheet = true) :
    format o₁ sheet = strip (realise (fills o₁) (laySheet sheet)) ∧
    format o₂ sheet = strip (realise (fills o₂) (laySheet sheet)) ∧
    (format o₁ sheet).toList.filter notWs = (format o₂ sheet).toList.filter notWs :=
  ⟨C11_layout o₁ sheet h, C11_layout o₂ sheet h, C11_format_erase o₁ o₂ sheet h⟩

/-- the printed text depends on the output tree only (trivial: function application) -/
theorem C10_tree_only (o : Opts) (sheet sheet' : List Node) (h : sheet = sheet') :
    format o sheet = format o sheet' := congrArg (format o) h

example : '&' ∉ (realise (fills ⟨false, false, false, 2⟩) (laySheet exSmall)).toList :=
  C10_no_amp _ _ (by decide +kernel)
example : '@' ∈ (realise (fills ⟨true, false, false, 2⟩) (laySheet exSmall)).toList := by decide +kernel

end Lessm.Print
