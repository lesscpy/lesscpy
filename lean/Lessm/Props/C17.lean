/-
  C17  Numeric built-ins agree with exact arithmetic; unknown functions pass through.
-/
import Lessm.Model.Builtins
import Mathlib.Data.Rat.Floor
import Mathlib.Tactic.Ring

namespace Lessm.Builtins

/-- `awayRound` is Mathlib's `round` (half up) for `x ≥ 0`, mirrored to the negative side; `C17_round_near`,
    `C17_round_int` and `C17_round_tie` below are `abs_sub_round`, `round_intCast`, `round_intCast_add` read
    through this. -/
theorem awayRound_eq (x : ℚ) : awayRound x = if x < 0 then -round (-x) else round x := by
  unfold awayRound; rw [round_eq, round_eq]; rfl

/-- **C17_round_odd**: `round (-x) = - round x` (symmetry: half *away from zero* on both sides). -/
theorem C17_round_odd (x : ℚ) : awayRound (-x) = - awayRound x := by
  rw [awayRound_eq, awayRound_eq, neg_neg]
  rcases lt_trichotomy x 0 with h | rfl | h
  · rw [if_pos h, if_neg (neg_pos.mpr h).not_gt, neg_neg]
  · rw [neg_zero, if_neg (lt_irrefl _), round_zero, neg_zero]
  · rw [if_pos (neg_neg_iff_pos.mpr h), if_neg h.not_gt]

/-- **C17_round_near**: `round` returns an integer within ½ of its argument. -/
theorem C17_round_near (x : ℚ) : |((awayRound x : ℤ) : ℚ) - x| ≤ 1 / 2 := by
  rw [awayRound_eq]
  split
  · rw [Int.cast_neg, ← neg_add', abs_neg, ← sub_neg_eq_add, abs_sub_comm]; exact abs_sub_round (-x)
  · rw [abs_sub_comm]; exact abs_sub_round x

/-- **C17_round_tie**: an exact half is rounded away from zero. -/
theorem C17_round_tie (k : ℤ) :
    awayRound ((k : ℚ) + 1 / 2) = if 0 ≤ k then k + 1 else k := by
  have half : round ((1 : ℚ) / 2) = 1 := by rw [one_div]; exact round_two_inv
  have up : ∀ j : ℤ, 0 ≤ j → awayRound ((j : ℚ) + 1 / 2) = j + 1 := fun j hj => by
    rw [awayRound_eq, if_neg (add_pos_of_nonneg_of_pos (Int.cast_nonneg hj) (by norm_num)).not_gt,
      round_intCast_add, half]
  by_cases hk : 0 ≤ k
  · rw [if_pos hk, up k hk]
  · -- the negative side is the mirror image
    have e : (k : ℚ) + 1 / 2 = -(((-k - 1 : ℤ) : ℚ) + 1 / 2) := by push_cast; ring
    rw [if_neg hk, e, C17_round_odd, up _ (by omega)]; ring

/-- **C17_round_int**: integers are fixed points of `round`. -/
theorem C17_round_int (k : ℤ) : awayRound (k : ℚ) = k := by
  rw [awayRound_eq, ← Int.cast_neg, round_intCast, round_intCast, neg_neg, ite_self]

/-- **C17_floor** (and `C17_ceil` below): `x.floor` and `x.ceil` are exactly ⌊x⌋ and ⌈x⌉, said by their two inequalities.  (Mathlib's `⌊x⌋` and `⌈x⌉` on ℚ are core's `x.floor` and
    `-(-x).floor` by definition.) -/
theorem C17_floor (x : ℚ) : ((x.floor : ℤ) : ℚ) ≤ x ∧ x < (x.floor : ℤ) + 1 :=
  ⟨Int.floor_le x, Int.lt_floor_add_one x⟩

theorem C17_ceil (x : ℚ) : x ≤ ((x.ceil : ℤ) : ℚ) ∧ ((x.ceil : ℤ) : ℚ) < x + 1 := by
  rw [Rat.ceil_eq_neg_floor_neg]
  exact ⟨Int.le_ceil x, Int.ceil_lt_add_one x⟩

/-- **C17_apply**: every built-in returns the mathematically exact value, the unit is kept
    (`percentage` yields `%`), and a zero result is printed bare. -/
theorem C17_apply (f : Fn) (x : ℚ) (u : List Char) :
    (call f x u).1 = apply f x ∧
    ((call f x u).2 = if apply f x = 0 then [] else unitOf f u) := by
  unfold call withUnit
  by_cases h : apply f x = 0 <;> simp [h]

theorem C17_incdec (x : ℚ) : apply .increment x = x + 1 ∧ apply .decrement x = x - 1
    ∧ apply .percentage x = 100 * x :=
  ⟨rfl, rfl, mul_comm x 100⟩

theorem argTokens_eq (l : List String) : argTokens l = l.intersperse "," := by
  induction l with
  | nil => rfl
  | cons a rest ih =>
    cases rest with
    | nil => rfl
    | cons b rest' => simp only [argTokens, List.intersperse_cons_cons, ih]

/-- **C17_passthrough**: an unknown function is copied with its evaluated arguments, in order,
    separated by single commas, between one pair of parentheses: the printed text is the
    concatenation of `name`, `(`, the arguments interspersed with `,`, and `)`. -/
theorem C17_passthrough (name : String) (args : List String) :
    callUnknown name args = name ++ String.join (["("] ++ args.intersperse "," ++ [")"]) := by
  unfold callUnknown passThrough
  rw [argTokens_eq]

example : awayRound (-5/2) = -3 := by decide +kernel
example : awayRound (-2/5) = 0 := by decide +kernel
example : callLexeme .round "-2.5px".toList = some (-3, "px".toList) := by decide +kernel

end Lessm.Builtins
