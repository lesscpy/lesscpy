/-
  C12 (character level)  The lexer front end: regular-expression matcher, ply's token loop, the stream the parser sees.

  Models: `Lessm/Model/Regex.lean` (`Re.m`, `repLoop`, `Re.matchPrefix`, `Re.nullable`, `Re.repsOK`),
          `Lessm/Model/Lex0.lean` (`step`, `lexAll`, `action`, `classifyIdent`, `front`, `frontEnd`),
          `Lessm/Gen/LexRules.lean` (GENERATED: `Lessm.Gen.lexRules`, the rules of the lexer object of the source tree;
          the facts about it below are `decide +kernel`, so they are re-checked whenever the file is regenerated).
  Vocabulary (`AgreeOn` below, the rest in `Lessm/Lemmas/Lex0Lemmas.lean`):
    `AgreeOn s k k'`    two continuations agree on every suffix of `s`;
    `charsOf items`     the concatenated lexemes of a raw stream (`items.flatMap (·.1.lexeme.toList)`);
    `countingFns`       the five rule functions that add the newlines of their lexeme to `lineno`;
    `FRes.toks`         the token list of a `front` result;
    `FromStep tb t`     `t` is the token of some turn of `step tb`.
  The theorems that others are proved from stand in the Lemmas file: R1 `m_suffix`, `matchPrefix_suffix`; R2 `m_progress`,
  `matchPrefix_progress`; L1 `step_split`; L3 `lexAll_never_stuck`; L4 `action_lineno`, `step_lineno`.  Here: R1 for the loop
  (`repLoop_suffix`), R3 `m_mono_k`, R4 (`matchPrefix_ch`, `_seq`, `_alt`, `cls_star_maximal`), the facts about the generated
  rules (G1, G2), L2 `lexAll_partition`, L3 on the generated rules, the rest of L4 (`lineno_untouched`, `lexAll_lines`,
  `lexAll_lines_exact`, `lexAll_item_offset`), L5a–d, the examples of all of them and the example tables `Ex.*`.
  Non-vacuity examples on the real rules are evaluated by the kernel (`decide +kernel`).
-/
import Lessm.Lemmas.Lex0Lemmas
import Lessm.Gen.LexRules
import Lessm.Gen.Words

namespace Lessm.Lex0.Ex
open Lessm.Rx

/-- the real rules, literals and reserved words of the source tree; two properties and two elements -/
def tb : Tables :=
  { rules := Lessm.Gen.lexRules, literals := Lessm.Gen.literals.toList, reserved := Lessm.Gen.reserved,
    properties := ["color", "b"], elements := ["a", "div"] }

/-- three hand-written rules and one literal -/
def tiny : Tables :=
  { rules := [("INITIAL", [⟨"t_newline", "t_ws", .rep 1 none true (.ch '\n')⟩,
                           ⟨"t_css_ident", "css_ident", .rep 1 none true (.cls false [.word])⟩,
                           ⟨"t_t_bclose", "t_bclose", .ch '}'⟩])],
    literals := ['{'], reserved := [], properties := [], elements := [] }

/-- a table ply would refuse: its rule matches the empty string -/
def bad : Tables :=
  { rules := [("INITIAL", [⟨"t_a", "a", .rep 0 none true (.ch 'a')⟩])],
    literals := [], reserved := [], properties := [], elements := [] }

end Lessm.Lex0.Ex

namespace Lessm.Rx

/-- **R1 for the loop `repLoop_suffix`**: what `m_suffix` says of `Re.m` — the continuation succeeded on a suffix of the
    input — holds of `repLoop`, given it for the body `step`. -/
theorem repLoop_suffix {α : Type} {step : List Char → (List Char → Option α) → Option α}
    (hstep : ∀ s k x, step s k = some x → ∃ p rest, s = p ++ rest ∧ k rest = some x)
    (greedy : Bool) (fuel min : Nat) (max : Option Nat) (s : List Char) (k : List Char → Option α) (x : α)
    (h : repLoop step greedy fuel min max s k = some x) : ∃ p rest, s = p ++ rest ∧ k rest = some x :=
  let ⟨p, rest, hs, hk, _⟩ := repLoop_split hstep h
  ⟨p, rest, hs, hk⟩

def AgreeOn {α : Type} (s : List Char) (k k' : List Char → Option α) : Prop :=
  ∀ p rest, s = p ++ rest → k rest = k' rest

theorem AgreeOn.self {α : Type} {s : List Char} {k k' : List Char → Option α} (h : AgreeOn s k k') : k s = k' s :=
  h [] s rfl

theorem AgreeOn.suffix {α : Type} {s p t : List Char} {k k' : List Char → Option α} (h : AgreeOn s k k')
    (hs : s = p ++ t) : AgreeOn t k k' :=
  fun p' rest ht => h (p ++ p') rest (by rw [hs, ht, List.append_assoc])

theorem repLoop_mono_k {α : Type} {step : List Char → (List Char → Option α) → Option α}
    (hstep : ∀ s k k', AgreeOn s k k' → step s k = step s k')
    {greedy : Bool} {fuel min : Nat} {max : Option Nat} {s : List Char} {k k' : List Char → Option α}
    (h : AgreeOn s k k') : repLoop step greedy fuel min max s k = repLoop step greedy fuel min max s k' := by
  induction fuel generalizing min max s with
  | zero => simp only [repLoop, h.self]
  | succ fuel ih =>
    have e1 : step s (fun s' => if s'.length < s.length then
            repLoop step greedy fuel (min - 1) (max.map (· - 1)) s' k else none)
        = step s (fun s' => if s'.length < s.length then
            repLoop step greedy fuel (min - 1) (max.map (· - 1)) s' k' else none) := by
      apply hstep
      intro p rest hs
      dsimp only
      split
      · exact ih (h.suffix hs)
      · rfl
    simp only [repLoop, e1, h.self]

/-- **R3 `m_mono_k`**: the result depends on the continuation only through its values on suffixes of the input. -/
theorem m_mono_k {α : Type} (r : Re) (s : List Char) (k k' : List Char → Option α)
    (h : AgreeOn s k k') : r.m s k = r.m s k' := by
  induction r generalizing s k k' with
  | eps => exact h.self
  | ch _ | notCh _ | any | cls _ _ =>
    cases s with
    | nil => rfl
    | cons a t => simp only [Re.m, h [a] t rfl]
  | seq a b iha ihb =>
    simp only [Re.m]
    apply iha
    intro p rest hs
    exact ihb _ _ _ (h.suffix hs)
  | alt a b iha ihb =>
    simp only [Re.m, iha _ _ _ h, ihb _ _ _ h]
  | rep min max greedy r ih =>
    simp only [Re.m]
    exact repLoop_mono_k ih h

/-- **R4** exactness, one character. -/
theorem matchPrefix_ch (c : Char) (t : List Char) : (Re.ch c).matchPrefix (c :: t) = some t := by
  simp [Re.matchPrefix, Re.m]

/-- **R4** exactness, sequence: the second part is matched behind every way the first part matches, in order. -/
theorem matchPrefix_seq (a b : Re) (s : List Char) :
    (Re.seq a b).matchPrefix s = a.m s (fun s' => b.matchPrefix s') := rfl

/-- **R4** exactness, alternation: the left alternative first. -/
theorem matchPrefix_alt (a b : Re) (s : List Char) :
    (Re.alt a b).matchPrefix s = (match a.matchPrefix s with | some r => some r | none => b.matchPrefix s) := by
  unfold Re.matchPrefix
  rw [Re.m]
  cases a.m s some <;> rfl

/-- `List.span_boundary` for the matcher: the greedy star of a one-character test `f` takes the run `xs` and leaves `t`.
    With `min = 0` a greedy loop tries one more iteration before it falls back to `k s`: while `xs` lasts the iteration
    succeeds and its result is the induction hypothesis; at the head of `t` (or at the end of the input) `step` fails
    and the fallback `some t` is the answer. -/
theorem repLoop_star_run {step : List Char → (List Char → Option (List Char)) → Option (List Char)} (f : Char → Bool)
    (hnil : ∀ k, step [] k = none) (hcons : ∀ x r k, step (x :: r) k = if f x = true then k r else none)
    (fuel : Nat) (xs t : List Char)
    (hxs : ∀ x ∈ xs, f x = true) (ht : ∀ y ∈ t.head?, f y = false) (hfuel : xs.length ≤ fuel) :
    repLoop step true fuel 0 none (xs ++ t) some = some t := by
  induction fuel generalizing xs with
  | zero =>
    have : xs = [] := List.length_eq_zero_iff.mp (by omega)
    subst this
    simp [repLoop]
  | succ fuel ih =>
    cases xs with
    | nil =>
      cases t with
      | nil => simp [repLoop, hnil]
      | cons y t' =>
        have hy : f y = false := ht y (by simp)
        simp [repLoop, hcons, hy]
    | cons x xs' =>
      have hx : f x = true := hxs x (by simp)
      have hrec := ih xs' (fun z hz => hxs z (by simp [hz])) (by simpa using hfuel)
      simp [repLoop, hcons, hx, hrec]

/-- **R4** exactness, greedy star of a class: on `xs ++ t`, all of `xs` in the class and the first character of `t` (if
    there is one) outside it, `[items]*` leaves exactly `t` — the maximal run. -/
theorem cls_star_maximal (items : List CC) (xs t : List Char)
    (hxs : ∀ x ∈ xs, items.any (ccMatch x) = true)
    (ht : ∀ y ∈ t.head?, items.any (ccMatch y) = false) :
    (Re.rep 0 none true (.cls false items)).matchPrefix (xs ++ t) = some t := by
  unfold Re.matchPrefix
  rw [Re.m]
  exact repLoop_star_run (fun c => items.any (ccMatch c)) (fun k => by simp [Re.m]) (fun x r k => by simp [Re.m])
    _ xs t hxs ht (by simp only [List.length_append]; omega)

example : (Re.seq (.ch 'a') (.rep 0 none true (.ch 'b'))).m "abbc".toList some = some ['c'] := by decide +kernel
example : ∃ p rest, "abbc".toList = p ++ rest ∧ some rest = some ['c'] :=
  m_suffix (Re.seq (.ch 'a') (.rep 0 none true (.ch 'b'))) _ some _ (by decide +kernel)

example : repLoop (fun s k => (Re.ch 'b').m s k) false 5 1 (some 2) "bbbc".toList some = some ['b', 'b', 'c'] := by
  decide +kernel

example : (Re.rep 1 none true (.cls false [.word])).matchPrefix "ab{".toList = some ['{'] := by decide +kernel

example : (Re.seq (.rep 0 none true (.ch 'b')) (.ch 'a')).nullable = false := by decide +kernel
/-- the hypothesis is needed: a nullable expression may succeed without consuming -/
example : (Re.rep 0 none true (.ch 'b')).matchPrefix ['a'] = some ['a'] := by decide +kernel

example : ['{'].length < "ab{".toList.length :=
  matchPrefix_progress (Re.rep 1 none true (.cls false [.word])) _ _ (by decide +kernel) (by decide +kernel)

example : AgreeOn ['a'] (fun s => if s.length ≤ 1 then some s else none) some := by
  intro p rest h
  have : rest.length ≤ 1 := by
    have := congrArg List.length h
    simp only [List.length_cons, List.length_nil, List.length_append] at this
    omega
  simp [this]

/-- "first alternative, not longest": `a|ab` on "ab" leaves "b" -/
example : (Re.alt (.ch 'a') (.seq (.ch 'a') (.ch 'b'))).matchPrefix ['a', 'b'] = some ['b'] := by decide +kernel

example : (Re.rep 0 none true (.cls false [.digit])).matchPrefix (['1', '2'] ++ ['p', 'x']) = some ['p', 'x'] :=
  cls_star_maximal [.digit] ['1', '2'] ['p', 'x'] (by decide +kernel) (by decide +kernel)

end Lessm.Rx

namespace Lessm.Gen
open Lessm.Rx Lessm.Lex0

/-- **G1 `lexRules_nonnullable`**: no rule of the lexer of the source tree can match the empty string (ply demands that). -/
theorem lexRules_nonnullable : ∀ p ∈ lexRules, ∀ r ∈ p.2, r.re.nullable = false := by decide +kernel

/-- **G2 `lexRules_repsOK`**: every repeated body in every rule consumes input, so the matcher's "an iteration must
    consume" cut never discards a match Python would find. -/
theorem lexRules_repsOK : ∀ p ∈ lexRules, ∀ r ∈ p.2, r.re.repsOK = true := by decide +kernel

/-- the statements are about something: there are rules, every state has some, and INITIAL is among the states -/
example : lexRules ≠ [] ∧ (∀ p ∈ lexRules, p.2 ≠ []) ∧ "INITIAL" ∈ lexRules.map (·.1) := by decide +kernel
/-- and they can fail: the table `Ex.bad` is rejected -/
example : ¬ ∀ p ∈ Lessm.Lex0.Ex.bad.rules, ∀ r ∈ p.2, r.re.nullable = false := by decide +kernel

end Lessm.Gen

namespace Lessm.Lex0
open Lessm.Rx

example : (match step Ex.tb {} ".a{b:c}".toList with
    | .tok t emit st' rest => t.lexeme == ".a" && t.type == "css_class" && emit && st'.cur == "iselector"
        && rest == "{b:c}".toList
    | _ => false) = true := by decide +kernel
/-- a literal character -/
example : (match step Ex.tb {} "+1".toList with
    | .tok t _ _ rest => t.lexeme == "+" && t.type == "+" && rest == ['1']
    | _ => false) = true := by decide +kernel

/-- **L2 `lexAll_partition`**: the lexemes of all items (tokens and comments) concatenate to a prefix of the input, and
    to exactly the input if the lexer ran to the end: nothing is lost, nothing invented.  If the lexer stopped at an
    illegal character, that character is the first one behind the prefix. -/
theorem lexAll_partition (tb : Tables) (st : LState) (s : List Char) :
    ∃ rest, s = (lexAll tb st s).items.flatMap (fun it => it.1.lexeme.toList) ++ rest ∧
      (∀ items, lexAll tb st s = .ok items → rest = []) ∧
      (∀ items c l, lexAll tb st s = .illegal items c l → ∃ rest', rest = c :: rest') :=
  let ⟨rest, h1, h2, h3⟩ := (lexAll_lexes tb st s).partition
  ⟨rest, h1, h2, fun items c l hi => (step_illegal (h3 items c l hi)).1⟩

example : (lexAll Ex.tb {} ".a{b:c}".toList).items.map (·.1.lexeme) = [".a", "{", "b", ":", "c", "}"] := by
  decide +kernel
/-- "a{b:c}$x" is lexed once, here: the lexer stops at `$` on line 1, in state INITIAL, behind the six tokens of "a{b:c}";
    no rule of INITIAL matches at "$x" and `$` is no literal -/
theorem Ex.lex_dollar : (match lexAll Ex.tb {} "a{b:c}$x".toList with
    | .illegal items c l => items.flatMap (fun it => it.1.lexeme.toList) == "a{b:c}".toList && c == '$' && l == 1
        && ((items.getLast?.map (fun (it : Item) => it.2.2)).getD {}).cur == "INITIAL"
        && (rulesOf Ex.tb "INITIAL").all (fun r => (r.re.matchPrefix "$x".toList).isNone)
        && !Ex.tb.literals.contains '$'
    | _ => false) = true := by decide +kernel
example : (match lexAll Ex.tb {} "a{b:c}$x".toList with
    | .illegal items c l => charsOf items == "a{b:c}".toList && c == '$' && l == 1
    | _ => false) = true := by
  have h := Ex.lex_dollar
  split at h
  · simp only [Bool.and_eq_true] at h ⊢
    exact h.1.1.1
  · cases h
/-- the comment is an item (not handed out), so its characters are accounted for -/
example : (lexAll Ex.tb {} "a/*x*/b".toList).items.map (fun it => (it.1.lexeme, it.2.1))
    = [("a", true), ("/*x*/", false), ("b", true)] := by decide +kernel

/-- **L3 instantiated with G1**: the tables built from the rules of the source tree, whatever the literals, reserved
    words, properties and elements. -/
theorem lexAll_never_stuck_gen (literals : List Char) (reserved : List (String × String))
    (properties elements : List String) (st : LState) (s : List Char) (items : List Item) :
    lexAll { rules := Lessm.Gen.lexRules, literals, reserved, properties, elements } st s ≠ .stuck items :=
  lexAll_never_stuck Lessm.Gen.lexRules_nonnullable st s items

/-- the same for the stream the parser sees -/
theorem front_never_stuck_gen (literals : List Char) (reserved : List (String × String))
    (properties elements : List String) (sig : List String) (last : Option String) (st : LState) (s : List Char)
    (x : List Tok) :
    front { rules := Lessm.Gen.lexRules, literals, reserved, properties, elements } sig last st s ≠ .stuck x :=
  front_never_stuck_of Lessm.Gen.lexRules_nonnullable sig last st s x

/-- the hypothesis is needed: with a nullable rule the loop does get stuck -/
example : (match lexAll Ex.bad {} "aab".toList with | .stuck items => items.length == 1 | _ => false) = true := by
  decide +kernel

example : countingFns = ["t_newline", "t_css_comment", "t_css_string", "t_istringquotes_css_string",
    "t_istringapostrophe_css_string"] := rfl
example : (action Ex.tb {} ⟨"t_css_comment", "css_comment", .eps⟩ "/*\n\n*/".toList).2.2.2.lineno = 3 := by
  rw [action_lineno]
  decide +kernel
example : (action Ex.tb {} ⟨"t_less_comment", "less_comment", .eps⟩ "//\n".toList).2.2.2.lineno = 1 := by
  rw [action_lineno]
  decide +kernel

/-- **L4** `push`, `pop` and `classifyIdent` do not touch the line counter. -/
theorem lineno_untouched (tb : Tables) (st : LState) (s : String) :
    (push st s).lineno = st.lineno ∧ (pop st).lineno = st.lineno ∧ (classifyIdent tb st s).2.lineno = st.lineno :=
  ⟨push_lineno st s, pop_lineno st, classifyIdent_lineno tb st s⟩

/-- **L4 `lexAll_lines`**: in the raw stream of `lexAll tb st s`
    (1) the first item's line is `st.lineno`;
    (2) every further item's line is the counter of the lexer state after the item before it;
    (3) lines never decrease;
    (4) the `i`-th item's line is at least `st.lineno` and at most `st.lineno` plus the number of newlines among the
        characters consumed before it (`charsOf (items.take i)`, a prefix of `s` by `lexAll_item_offset`). -/
theorem lexAll_lines (tb : Tables) (st : LState) (s : List Char) :
    (∀ it, (lexAll tb st s).items.head? = some it → it.1.line = st.lineno) ∧
    (∀ i a b, (lexAll tb st s).items[i]? = some a → (lexAll tb st s).items[i + 1]? = some b →
        b.1.line = a.2.2.lineno) ∧
    (∀ (i j : Nat) (a b : Item), i ≤ j → (lexAll tb st s).items[i]? = some a → (lexAll tb st s).items[j]? = some b →
        a.1.line ≤ b.1.line) ∧
    (∀ i a, (lexAll tb st s).items[i]? = some a →
        st.lineno ≤ a.1.line ∧ a.1.line ≤ st.lineno + countNl (charsOf ((lexAll tb st s).items.take i))) :=
  have h := (lexAll_lexes tb st s).linesOK
  ⟨fun _ hh => h.head hh, fun _ _ _ ha hb => h.next ha hb, fun _ _ _ _ hij ha hb => h.mono hij ha hb,
   fun _ _ ha => ⟨(h.at ha).2.1, (h.at ha).2.2.1⟩⟩

/-- **L4 `lexAll_lines_exact`**: if every item before the `i`-th advanced the counter by exactly the newlines of its
    lexeme (by `step_lineno`: it contains no newline, or it comes from one of the five counting rule functions), the
    `i`-th item's line is exactly `st.lineno` plus the newlines consumed before it. -/
theorem lexAll_lines_exact (tb : Tables) (st : LState) (s : List Char) (i : Nat) (a : Item)
    (ha : (lexAll tb st s).items[i]? = some a)
    (hex : ∀ j b, j < i → (lexAll tb st s).items[j]? = some b →
        b.2.2.lineno = b.1.line + countNl b.1.lexeme.toList) :
    a.1.line = st.lineno + countNl (charsOf ((lexAll tb st s).items.take i)) :=
  ((lexAll_lexes tb st s).linesOK.at ha).2.2.2 hex

/-- **L4 `lexAll_item_offset`**: the characters consumed before the `i`-th item are a prefix of the input. -/
theorem lexAll_item_offset (tb : Tables) (st : LState) (s : List Char) (i : Nat) :
    ∃ rest, s = charsOf ((lexAll tb st s).items.take i) ++ rest := by
  obtain ⟨rest, h, -⟩ := lexAll_partition tb st s
  refine ⟨charsOf ((lexAll tb st s).items.drop i) ++ rest, ?_⟩
  rw [← List.append_assoc]
  simp only [charsOf, ← List.flatMap_append, List.take_append_drop]
  exact h

/-- lines on the real rules: a comment over three lines, a `//` comment, newlines as tokens -/
example : (lexAll Ex.tb {} "a {\n  color: red /* x\n\n y */\n}\n// c\n.b{}".toList).items.map
      (fun it => (it.1.type, it.1.line, it.2.2.lineno))
    = [("css_dom", 1, 1), ("t_ws", 1, 1), ("t_bopen", 1, 1), ("t_ws", 1, 2), ("t_ws", 2, 2), ("css_property", 2, 2),
       ("t_colon", 2, 2), ("t_ws", 2, 2), ("css_ident", 2, 2), ("t_ws", 2, 2), ("css_comment", 2, 4), ("t_ws", 4, 5),
       ("t_bclose", 5, 5), ("t_ws", 5, 6), ("less_comment", 6, 6), ("t_ws", 6, 7), ("css_class", 7, 7),
       ("t_bopen", 7, 7), ("t_bclose", 7, 7)] := by decide +kernel
/-- the three hand-written rules: two newlines in one token -/
example : (lexAll Ex.tiny {} "ab{\n\nc}".toList).items.map (fun it => (it.1.type, it.1.lexeme, it.1.line))
    = [("css_ident", "ab", 1), ("{", "{", 1), ("t_ws", "\n\n", 1), ("css_ident", "c", 3), ("t_bclose", "}", 3)] := by
  decide +kernel
/-- the inequality in (4) can be strict: a rule function outside `countingFns` whose lexeme holds a newline
    (here a table that names its newline rule differently) does not advance the counter -/
example : (lexAll { Ex.tiny with rules := [("INITIAL", [⟨"t_nl", "t_ws", .ch '\n'⟩, ⟨"t_x", "x", .ch 'x'⟩])] } {}
      "\nx".toList).items.map (fun it => (it.1.type, it.1.line)) = [("t_ws", 1), ("x", 1)] := by decide +kernel

/-- **L5a `front_semicolon_before_brace`**: in the output of `front`, a token without characters (`lexeme = ""`) is an
    injected `;` — type "t_semicolon", value ";", the line of the next token — and the next token exists, has type
    "t_bclose" and is a token of the loop; every token with characters is a token of the loop (`FromStep`), and tokens
    of the loop have characters. -/
theorem front_semicolon_before_brace (tb : Tables) (sig : List String) (last : Option String) (st : LState)
    (s : List Char) :
    (∀ i q, (front tb sig last st s).toks[i]? = some q → q.lexeme = "" →
        ∃ p, (front tb sig last st s).toks[i + 1]? = some p ∧ p.type = "t_bclose" ∧ FromStep tb p ∧
          q = ⟨"t_semicolon", ";", p.line, ""⟩) ∧
    (∀ t ∈ (front tb sig last st s).toks, t.lexeme ≠ "" → FromStep tb t) ∧
    (∀ t, FromStep tb t → t.lexeme ≠ "") := by
  have h := front_out tb sig last st s
  refine ⟨fun i q hi hq => h.semi hi hq, fun t ht hne => ?_, fun t ht => ht.lexeme_ne⟩
  rcases h.origin ht with hfs | ⟨n, rfl⟩
  · exact hfs
  · exact absurd rfl hne

example : (frontEnd Ex.tb Lessm.Gen.significantWs ".a {b: c}").toks.map (fun t => (t.type, t.lexeme))
    = [("css_class", ".a"), ("t_ws", " "), ("t_bopen", "{"), ("css_property", "b"), ("t_colon", ":"),
       ("css_ident", "c"), ("t_semicolon", ""), ("t_bclose", "}")] := by decide +kernel
/-- no `;` is put behind `{`, `}` or `;` -/
example : (frontEnd Ex.tb Lessm.Gen.significantWs "a{b:c;}div{}").toks.map (fun t => (t.type, t.lexeme))
    = [("css_dom", "a"), ("t_bopen", "{"), ("css_property", "b"), ("t_colon", ":"), ("css_ident", "c"),
       ("t_semicolon", ";"), ("t_bclose", "}"), ("css_dom", "div"), ("t_bopen", "{"), ("t_bclose", "}")] := by
  decide +kernel

/-- **L5b `front_no_leading_ws`**: the first token the parser sees is never a blank. -/
theorem front_no_leading_ws (tb : Tables) (sig : List String) (text : String) (t : Tok)
    (h : (frontEnd tb sig text).toks.head? = some t) : t.type ≠ "t_ws" := by
  intro hw
  have hout := front_out tb sig none {} text.toList
  rw [List.head?_eq_getElem?] at h
  rcases hout.ws (i := 0) h hw with ⟨-, l, hl, -⟩ | ⟨j, p, hj, -⟩
  · cases hl
  · omega

example : (frontEnd Ex.tb Lessm.Gen.significantWs "  \n .a .b{color:red}").toks.map (fun t => (t.type, t.lexeme))
    = [("css_class", ".a"), ("t_ws", " "), ("css_class", ".b"), ("t_bopen", "{"), ("css_property", "color"),
       ("t_colon", ":"), ("css_ident", "red"), ("t_semicolon", ""), ("t_bclose", "}")] := by decide +kernel

/-- **L5c `front_ws_after_sig_gen`** (any `last`, any `sig`; `front_ws_after_sig` below is its instance): a blank in the output of `front` stands at the very beginning only if
    `last` is significant; otherwise directly behind a token of significant type — or, the one exception, behind a `}`
    that had a `;` injected before it (the `;` stays "the last token"), which needs "t_semicolon" to be significant. -/
theorem front_ws_after_sig_gen (tb : Tables) (sig : List String) (last : Option String) (st : LState)
    (s : List Char) (i : Nat) (w : Tok) (hi : (front tb sig last st s).toks[i]? = some w) (hw : w.type = "t_ws") :
    (i = 0 ∧ ∃ l, last = some l ∧ l ∈ sig) ∨
    (∃ j p, i = j + 1 ∧ (front tb sig last st s).toks[j]? = some p ∧
      (p.type ∈ sig ∨ (p.type = "t_bclose" ∧ "t_semicolon" ∈ sig ∧
        ∃ j' n, j = j' + 1 ∧ (front tb sig last st s).toks[j']? = some ⟨"t_semicolon", ";", n, ""⟩))) :=
  (front_out tb sig last st s).ws hi hw

/-- **L5c `front_ws_after_sig`**: if "t_semicolon" is not significant, or "t_bclose" is (the list of the source tree
    holds neither), every blank the parser sees is immediately preceded by a token of significant type. -/
theorem front_ws_after_sig (tb : Tables) (sig : List String) (hsig : "t_semicolon" ∈ sig → "t_bclose" ∈ sig)
    (text : String) (i : Nat) (w : Tok) (hi : (frontEnd tb sig text).toks[i]? = some w) (hw : w.type = "t_ws") :
    ∃ j p, i = j + 1 ∧ (frontEnd tb sig text).toks[j]? = some p ∧ p.type ∈ sig := by
  rcases (front_out tb sig none {} text.toList).ws hi hw with ⟨-, l, hl, -⟩ | ⟨j, p, hj, hp, hps⟩
  · cases hl
  · refine ⟨j, p, hj, hp, ?_⟩
    rcases hps with hps | ⟨h1, h2, -⟩
    · exact hps
    · rw [h1]
      exact hsig h2

/-- the side condition holds for the list of the source tree -/
theorem significantWs_side : "t_semicolon" ∈ Lessm.Gen.significantWs → "t_bclose" ∈ Lessm.Gen.significantWs := by
  decide +kernel

/-- blanks behind `{`, `:`, and at the start are dropped; those behind `.a`, `color` and `red` (css_class, css_property,
    css_ident: significant) are kept -/
example : (frontEnd Ex.tb Lessm.Gen.significantWs " .a { color : red }").toks.map (fun t => (t.type, t.lexeme))
    = [("css_class", ".a"), ("t_ws", " "), ("t_bopen", "{"), ("css_property", "color"), ("t_ws", " "), ("t_colon", ":"),
       ("css_ident", "red"), ("t_ws", " "), ("t_semicolon", ""), ("t_bclose", "}")] := by decide +kernel
/-- the side condition is needed: were "t_semicolon" significant, a blank would follow a `}` -/
example : (frontEnd Ex.tb ["t_semicolon"] "a{b:c} ").toks.map (fun t => t.type)
    = ["css_dom", "t_bopen", "css_property", "t_colon", "css_ident", "t_semicolon", "t_bclose", "t_ws"] := by
  decide +kernel

/-- **L5d `front_partition_le`**: the characters of the tokens the parser sees are a subsequence of the input (dropped
    blanks and comments are missing, injected `;` add nothing); in particular there are at most as many. -/
theorem front_partition_le (tb : Tables) (sig : List String) (last : Option String) (st : LState) (s : List Char) :
    ((front tb sig last st s).toks.flatMap (fun t => t.lexeme.toList)).Sublist s ∧
    ((front tb sig last st s).toks.flatMap (fun t => t.lexeme.toList)).length ≤ s.length :=
  let ⟨pre, rest, h1, h2, _⟩ := (front_fronts tb sig last st s).consumed
  have h := h1 ▸ h2.trans (List.sublist_append_left pre rest)
  ⟨h, h.length_le⟩

example : String.ofList ((frontEnd Ex.tb Lessm.Gen.significantWs " .a { color : red } /* c */").toks.flatMap
    (fun t => t.lexeme.toList)) = ".a {color :red }" := by decide +kernel

end Lessm.Lex0
