/-
  C09  Colour functions: the HLS conversion is exactly invertible over ℚ, the operations shift the
  named component only, results are well-formed bytes, rounding / truncation errors are bounded.
  The helper lemmas, the predicate `Byte`, and `C09_hls_in_range` and `C09_rgb_in_range`, which the
  helper lemmas use, are in Lessm/Lemmas/Hls.lean; `C09_roundtrip` is `roundtrip` there.
-/
import Lessm.Lemmas.Hls

namespace Lessm.ColorFn
open Lessm.Builtins

/-- **C09_roundtrip**: `hls_to_rgb` inverts `rgb_to_hls` exactly on the unit cube. -/
theorem C09_roundtrip (r g b : ℚ) (hr : 0 ≤ r ∧ r ≤ 1) (hg : 0 ≤ g ∧ g ≤ 1) (hb : 0 ≤ b ∧ b ≤ 1) :
    let hls := rgbToHls r g b
    hlsToRgb hls.1 hls.2.1 hls.2.2 = (r, g, b) :=
  roundtrip r g b hr hg hb

/-- **C09_identity0**: a zero amount changes nothing. -/
theorem C09_identity0 (c : RGB) (hc : Byte c) :
    lighten c 0 = c ∧ darken c 0 = c ∧ saturate c 0 = c ∧ desaturate c 0 = c := by
  have h : ∀ idx sign, ophsl c 0 idx sign = c := fun idx sign => by
    unfold ophsl; rw [ophslExact_zero c hc]; exact round3_nat awayRound_nat c hc
  exact ⟨h _ _, h _ _, h _ _, h _ _⟩

/-- **C09_spin0**: spinning by 0 degrees changes nothing. -/
theorem C09_spin0 (c : RGB) (hc : Byte c) : spin c 0 = c := by
  unfold spin
  rw [spinExact_zero c hc]
  exact round3_nat evenRound_nat c hc

/-- **C09_spin_wrap**: the angle counts modulo 360 (no hypothesis on `c` or `d`). -/
theorem C09_spin_wrap (c : RGB) (d : ℚ) (k : ℤ) : spin c (d + 360 * k) = spin c d := by
  unfold spin
  rw [spinExact_wrap]

/-- **C09_grey**: `greyscale` yields three equal channels. -/
theorem C09_grey (c : RGB) (hc : Byte c) :
    (greyscale c).1 = (greyscale c).2.1 ∧ (greyscale c).2.1 = (greyscale c).2.2 := by
  unfold greyscale desaturate ophsl
  rw [ophslExact_grey c hc]
  exact ⟨rfl, rfl⟩

theorem byte_triple (x y z : ℚ) : Byte (byteOf x, byteOf y, byteOf z) :=
  ⟨Color.clampInt_le x, Color.clampInt_le y, Color.clampInt_le z⟩

/-- **C09_wf**: every result channel is a byte, whatever the arguments. -/
theorem C09_wf (c c1 c2 : RGB) (d w : ℚ) (idx : ℕ) (sign : ℤ) (h : ℤ) (s l : ℚ) :
    Byte (ophsl c d idx sign) ∧ Byte (spin c d) ∧ Byte (mix c1 c2 w) ∧ Byte (hsl h s l) :=
  ⟨byte_triple _ _ _, byte_triple _ _ _, byte_triple _ _ _, byte_triple _ _ _⟩

/-- **C09_round_near**: on [0,255] the stored byte (half away from zero) is within ½ of the exact value. -/
theorem C09_round_near (x : ℚ) (h0 : 0 ≤ x) (h1 : x ≤ 255) :
    |((byteOf (awayRound x) : ℕ) : ℚ) - x| ≤ 1 / 2 :=
  byteOf_near _ x h0 h1 (C17_round_near x)

/-- **C09_round_near_even**: the same for half-to-even rounding. -/
theorem C09_round_near_even (x : ℚ) (h0 : 0 ≤ x) (h1 : x ≤ 255) :
    |((byteOf (evenRound x) : ℕ) : ℚ) - x| ≤ 1 / 2 :=
  byteOf_near _ x h0 h1 (evenRound_near x)

/-- **C09_ophsl_near**: every channel of `ophsl` is within ½ of the exact channel
    (stronger than asked: any `idx`, any amount `d`, any `sign`). -/
theorem C09_ophsl_near (c : RGB) (hc : Byte c) (d : ℚ) (idx : ℕ) (sign : ℤ) :
    |(((ophsl c d idx sign).1 : ℕ) : ℚ) - (ophslExact c d idx sign).1| ≤ 1 / 2 ∧
    |(((ophsl c d idx sign).2.1 : ℕ) : ℚ) - (ophslExact c d idx sign).2.1| ≤ 1 / 2 ∧
    |(((ophsl c d idx sign).2.2 : ℕ) : ℚ) - (ophslExact c d idx sign).2.2| ≤ 1 / 2 := by
  obtain ⟨a, b, e⟩ := ophslExact_range c hc d idx sign
  exact ⟨C09_round_near _ a.1 a.2, C09_round_near _ b.1 b.2, C09_round_near _ e.1 e.2⟩

/-- **C09_clamp01**: `_clamp` is the projection onto [0,1]. -/
theorem C09_clamp01 (x : ℚ) :
    (0 ≤ clamp01 x ∧ clamp01 x ≤ 1) ∧ (0 ≤ x → x ≤ 1 → clamp01 x = x) ∧
    (x ≤ 0 → clamp01 x = 0) ∧ (1 ≤ x → clamp01 x = 1) :=
  ⟨clamp01_range x, clamp01_id x, clamp01_low x, clamp01_high x⟩

/-- **C09_component**: the named component is shifted by `d/100` and clamped to [0,1];
    hue and the other component are untouched (idx 1 = lightness, idx 2 = saturation). -/
theorem C09_component (c : RGB) (d : ℚ) (sign : ℤ) :
    ophslExact c d 1 sign =
      scale (hlsToRgb (hexToHls c).1 (clamp01 ((hexToHls c).2.1 + sign * (d / 100))) (hexToHls c).2.2) ∧
    ophslExact c d 2 sign =
      scale (hlsToRgb (hexToHls c).1 (hexToHls c).2.1 (clamp01 ((hexToHls c).2.2 + sign * (d / 100)))) :=
  ⟨rfl, rfl⟩

/-- **C09_mix_ends**: weight 100 gives the first colour, weight 0 the second. -/
theorem C09_mix_ends (c1 c2 : RGB) (h1 : Byte c1) (h2 : Byte c2) :
    mix c1 c2 100 = c1 ∧ mix c1 c2 0 = c2 := by
  unfold mix
  simp only [mixExact_full, mixExact_none, byteOf_nat h1.1, byteOf_nat h1.2.1, byteOf_nat h1.2.2,
    byteOf_nat h2.1, byteOf_nat h2.2.1, byteOf_nat h2.2.2, and_self]

/-- **C09_mix_trunc**: for a weight in [0,100] every channel of `mix` is the truncation (floor)
    of the exact weighted mean, which lies between the two input channels. -/
theorem C09_mix_trunc (c1 c2 : RGB) (w : ℚ) (h1 : Byte c1) (h2 : Byte c2) (w0 : 0 ≤ w) (w1 : w ≤ 100) :
    ((((mix c1 c2 w).1 : ℕ) : ℚ) ≤ (mixExact c1 c2 w).1 ∧
      (mixExact c1 c2 w).1 < (((mix c1 c2 w).1 : ℕ) : ℚ) + 1 ∧
      min (c1.1 : ℚ) c2.1 ≤ (mixExact c1 c2 w).1 ∧ (mixExact c1 c2 w).1 ≤ max (c1.1 : ℚ) c2.1) ∧
    ((((mix c1 c2 w).2.1 : ℕ) : ℚ) ≤ (mixExact c1 c2 w).2.1 ∧
      (mixExact c1 c2 w).2.1 < (((mix c1 c2 w).2.1 : ℕ) : ℚ) + 1 ∧
      min (c1.2.1 : ℚ) c2.2.1 ≤ (mixExact c1 c2 w).2.1 ∧ (mixExact c1 c2 w).2.1 ≤ max (c1.2.1 : ℚ) c2.2.1) ∧
    ((((mix c1 c2 w).2.2 : ℕ) : ℚ) ≤ (mixExact c1 c2 w).2.2 ∧
      (mixExact c1 c2 w).2.2 < (((mix c1 c2 w).2.2 : ℕ) : ℚ) + 1 ∧
      min (c1.2.2 : ℚ) c2.2.2 ≤ (mixExact c1 c2 w).2.2 ∧ (mixExact c1 c2 w).2.2 ≤ max (c1.2.2 : ℚ) c2.2.2) := by
  -- the weight `mixExact` computes is `w / 100`
  have ht := unit_div w0 w1
  rw [← show (((w / 100) * 2 - 1) + 1) / 2 = w / 100 by ring] at ht
  exact ⟨mix_chan _ _ h1.1 h2.1 _ ht.1 ht.2, mix_chan _ _ h1.2.1 h2.2.1 _ ht.1 ht.2,
    mix_chan _ _ h1.2.2 h2.2.2 _ ht.1 ht.2⟩

/-- **C09_extract_range**: hue in [0,360), saturation and lightness in [0,100]. -/
theorem C09_extract_range (c : RGB) (hc : Byte c) :
    0 ≤ hue c ∧ hue c < 360 ∧ 0 ≤ saturation c ∧ saturation c ≤ 100 ∧
    0 ≤ lightness c ∧ lightness c ≤ 100 := by
  obtain ⟨hh, hl, hs⟩ := hexToHls_range c hc
  have k : (0 : ℚ) ≤ 100 := by norm_num
  exact ⟨mul_nonneg hh.1 (by norm_num), mul_lt_of_lt_one_left (by norm_num) hh.2,
    mul_nonneg hs.1 k, mul_le_of_le_one_left k hs.2, mul_nonneg hl.1 k, mul_le_of_le_one_left k hl.2⟩

example : Byte (255, 0, 0) := ⟨by decide +kernel, by decide +kernel, by decide +kernel⟩
example : rgbToHls 1 0 0 = (0, 1/2, 1) := by decide +kernel
example : rgbToHls (1/5) (2/5) (3/5) = (7/12, 2/5, 1/2) := by decide +kernel
example : hlsToRgb (7/12) (2/5) (1/2) = (1/5, 2/5, 3/5) := by decide +kernel
example : lighten (255, 0, 0) 10 = (255, 51, 51) := by decide +kernel
example : darken (255, 0, 0) 10 = (204, 0, 0) := by decide +kernel
example : desaturate (255, 0, 0) 20 = (230, 26, 26) := by decide +kernel
example : saturate (100, 120, 140) 20 = (76, 120, 164) := by decide +kernel
example : greyscale (255, 0, 0) = (128, 128, 128) := by decide +kernel
example : spin (255, 0, 0) 120 = (0, 255, 0) := by decide +kernel
example : spin (255, 0, 0) (120 + 360 * (-2 : ℤ)) = (0, 255, 0) := by decide +kernel
example : mix (255, 0, 0) (0, 0, 255) 50 = (127, 0, 127) := by decide +kernel
example : hsl 120 1 (1/2) = (0, 255, 0) := by decide +kernel
example : hue (0, 255, 0) = 120 ∧ saturation (0, 255, 0) = 100 ∧ lightness (0, 255, 0) = 50 := by
  decide +kernel
/-- the ½ bound is attained, and the two roundings differ exactly on ties -/
example : byteOf (awayRound (5/2)) = 3 ∧ byteOf (evenRound (5/2)) = 2 := by decide +kernel

end Lessm.ColorFn
