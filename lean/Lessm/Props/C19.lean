/-
  C19  At-rule blocks keep their structure.
-/
import Lessm.Model.AtRule
namespace Lessm.AtRule

theorem evalFrames_full (ev : String → String) (fs : List Frame)
    (h : fs.all (fun f => !f.decls.isEmpty) = true) :
    evalFrames ev fs = fs.map (fun f => ⟨f.sel, evalDecls ev f.decls⟩) := by
  induction fs with
  | nil => rfl
  | cons f r ih =>
    simp only [List.all_cons, Bool.and_eq_true, Bool.not_eq_true'] at h
    simp only [evalFrames, h.1, List.map_cons]
    simp [ih h.2]

theorem shape_evalDecls (ev : String → String) (ds : List Decl) :
    (evalDecls ev ds).map (fun d => (⟨d.prop, ""⟩ : Decl)) = ds.map (fun d => ⟨d.prop, ""⟩) := by
  simp [evalDecls, Function.comp_def]

mutual
/-- **C19_item**: an item without empty blocks evaluates to exactly one item, of the same shape — same
    at-rule keyword and name, same frames in the same order with the same selectors, same declarations
    in the same order; only the values differ (`C19_values` says how): nothing is flattened, hoisted,
    renamed, prefixed, dropped or duplicated. -/
theorem C19_item (ev : String → String) : ∀ i : Item, Full i = true →
    ∃ j, evalItem ev i = [j] ∧ shape j = shape i
  | .stmt t, _ => ⟨.stmt t, rfl, rfl⟩
  | .keyframes kw n fs, h => by
      simp only [Full, Bool.and_eq_true, Bool.not_eq_true'] at h
      refine ⟨.keyframes kw n (fs.map (fun f => ⟨f.sel, evalDecls ev f.decls⟩)), ?_, ?_⟩
      · simp only [evalItem, evalFrames_full ev fs h.2]
        cases fs with
        | nil => simp at h
        | cons f r => simp
      · simp [shape, shape_evalDecls]
  | .declBlock p ds, h => by
      simp only [Full, Bool.not_eq_true'] at h
      exact ⟨.declBlock p (evalDecls ev ds), by simp [evalItem, h], by simp [shape, shape_evalDecls]⟩
  | .rule s ds, h => by
      simp only [Full, Bool.not_eq_true'] at h
      exact ⟨.rule s (evalDecls ev ds), by simp [evalItem, h], by simp [shape, shape_evalDecls]⟩
  | .media q body, h => by
      simp only [Full, Bool.and_eq_true, Bool.not_eq_true'] at h
      obtain ⟨b, hb, hs⟩ := C19_list ev body h.2
      refine ⟨.media q b, ?_, by simp [shape, hs]⟩
      -- `b` has the shape of `body`, so it is not empty either
      cases body with
      | nil => simp at h
      | cons i is =>
        cases b with
        | nil => simp [shapeList] at hs
        | cons x xs => simp [evalItem, hb]
/-- **C19_list**: on every sheet (or `@media` body) without empty blocks the evaluator returns the
    same items in the same order, each with its structure kept as `C19_item` says. -/
theorem C19_list (ev : String → String) : ∀ is : List Item, FullList is = true →
    ∃ js, evalList ev is = js ∧ shapeList js = shapeList is
  | [], _ => ⟨[], rfl, rfl⟩
  | i :: is, h => by
      simp only [FullList, Bool.and_eq_true] at h
      obtain ⟨j, hj, hsj⟩ := C19_item ev i h.1
      obtain ⟨js, hjs, hsjs⟩ := C19_list ev is h.2
      exact ⟨j :: js, by simp [evalList, hj, hjs], by simp [shapeList, hsj, hsjs]⟩
end

/-- **C19_values**: every declaration value of the output is the evaluated source value (and only
    that): declarations are mapped one to one, in order. -/
theorem C19_values (ev : String → String) (ds : List Decl) :
    evalDecls ev ds = ds.map (fun d => ⟨d.prop, ev d.value⟩) := rfl

/-- **C19_stmt**: @charset and non-LESS @import statements are kept verbatim, at their position. -/
theorem C19_stmt (ev : String → String) (a b : List Item) (t : String) :
    evalList ev (a ++ .stmt t :: b) = evalList ev a ++ .stmt t :: evalList ev b := by
  induction a with
  | nil => simp [evalList, evalItem]
  | cons i is ih => simp [evalList, ih]

/-- **C19_identity**: with nothing to evaluate the sheet is a fixed point. -/
theorem C19_identity (is : List Item) (h : FullList is = true) :
    shapeList (evalList id is) = shapeList is := by
  obtain ⟨js, hjs, hs⟩ := C19_list id is h
  rw [hjs, hs]

def exSheet : List Item :=
  [.stmt "@charset \"utf-8\";",
   .keyframes "@-webkit-keyframes" "spin" [⟨"from", [⟨"top", "@a"⟩]⟩, ⟨"50%", [⟨"top", "1px"⟩, ⟨"left", "2px"⟩]⟩, ⟨"to", [⟨"top", "0"⟩]⟩],
   .media "print" [.declBlock "@font-face" [⟨"font-family", "\"x\""⟩], .rule ".a" [⟨"color", "red"⟩]]]
example : FullList exSheet = true := by decide +kernel
example : ∃ js, evalList (fun v => if v == "@a" then "5px" else v) exSheet = js ∧ shapeList js = shapeList exSheet :=
  C19_list _ exSheet (by decide +kernel)
end Lessm.AtRule
