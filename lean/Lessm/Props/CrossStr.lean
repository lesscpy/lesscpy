/-
  CrossStr  One more cross-model theorem (X1–X5 are in Props/Cross.lean, X6 in CrossAt, X7–X8 in CrossGuard, X9 in CrossPrint).

    X10 interpolation `@{x}` inside a string literal (`Str.evalParts`, scope.py `Scope.swap` + node.py
        `Node.process`) substitutes the same value as interpolation inside a selector (`Vars.resolveSel`,
        identifier.py `parse`), on the same pieces, whenever the interpolated values carry no quote
        characters at their ends; and one side fails exactly when the other does.
-/
import Lessm.Model.Str
import Lessm.Model.Vars

namespace Lessm.Cross

/-- a piece of a string literal as a piece of a selector -/
def partToSTok : Str.Part → Vars.STok
  | .text s => .lit (String.ofList s)
  | .interp n => .interp (String.ofList n)

/-- the text a scope gives to `@{n}`: the variable's value substituted until no reference is left, its tokens concatenated -/
def rhoOf (sc : Vars.Scope) (n : List Char) : Option (List Char) :=
  match Vars.expand sc 64 [.ref (String.ofList n)] with
  | .ok v => some (String.join (Vars.litText v)).toList
  | .error _ => none

/-- what `resolveSel` yields, as one text -/
def selText (r : Except Vars.Err (List String)) : Option (List Char) :=
  match r with
  | .ok l => some (String.join l).toList
  | .error _ => none

theorem selText_ok (l : List String) : selText (.ok l) = some (String.join l).toList := rfl

theorem selText_error (e : Vars.Err) : selText (.error e) = none := rfl

/-- one more piece in front: its text is prepended on the selector side, a failure stays one -/
theorem selText_bind (r : Except Vars.Err (List String)) (l : List String) :
    selText (r >>= fun r' => pure (l ++ r')) = (selText r).map ((String.join l).toList ++ ·) := by
  cases r with
  | error e => rfl
  | ok l' =>
    simp only [selText, bind, Except.bind, pure, Except.pure, Option.map_some, String.join_append,
      String.toList_append]

/-- **X10**: for every scope and every string body, if the values interpolated carry no quote characters
    at their ends (`destring` leaves them alone), evaluating the string's parts with the scope's texts
    gives exactly the concatenation of what selector interpolation gives for the same pieces; one side
    fails (unknown variable / runaway substitution) exactly when the other does. -/
theorem str_interp_is_sel_interp (sc : Vars.Scope) (ps : List Str.Part)
    (hq : ∀ p ∈ ps, ∀ n, p = .interp n → ∀ v, rhoOf sc n = some v → Str.destring v = v) :
    Str.evalParts (rhoOf sc) ps = selText (Vars.resolveSel sc (ps.map partToSTok)) := by
  induction ps with
  | nil => rfl
  | cons p r ih =>
    have ih' := ih (fun p hp => hq p (List.mem_cons_of_mem _ hp))
    cases p with
    | text s =>
      simp only [List.map_cons, partToSTok, Str.evalParts, Vars.resolveSel, ih']
      exact ((selText_bind _ [String.ofList s]).trans (by simp [String.join])).symm
    | interp n =>
      have hd := hq (.interp n) List.mem_cons_self n rfl
      simp only [List.map_cons, partToSTok, Str.evalParts, Vars.resolveSel, rhoOf] at hd ⊢
      cases hv : Vars.expand sc 64 [.ref (String.ofList n)] with
      | error e => rfl
      | ok v =>
        rw [hv] at hd
        simp only [hd _ rfl, ih', selText_bind]

/-! ### the hypothesis is needed; non-vacuity -/

/-- `@a: "x"`: the value is the quoted text -/
private def exQ : Vars.Scope := [[("a", [.lit "\"x\""])]]

/-- the complement: a quoted value is the one case where the two differ on purpose: the string drops the
    quotes (`x`), the selector keeps them (`"x"`) -/
example : Str.evalParts (rhoOf exQ) [.interp "a".toList] = some "x".toList
    ∧ selText (Vars.resolveSel exQ ([Str.Part.interp "a".toList].map partToSTok)) = some "\"x\"".toList
    ∧ (Vars.resolveSel exQ ([Str.Part.interp "a".toList].map partToSTok)).toOption = some ["\"x\""] := by
  decide +kernel

/-- the hypothesis of X10 fails there -/
example : rhoOf exQ "a".toList = some "\"x\"".toList
    ∧ Str.destring "\"x\"".toList ≠ "\"x\"".toList := by
  decide +kernel

/-- a chain `@b: k; @a: @b;` (the inner frame holds `@a`, the outer `@b`) -/
private def exC : Vars.Scope := [[("a", [.ref "b"])], [("b", [.lit "k"])]]

private def exPs : List Str.Part := [.text "s-".toList, .interp "a".toList, .text "-t".toList]

example : Str.evalParts (rhoOf exC) exPs = some "s-k-t".toList
    ∧ selText (Vars.resolveSel exC (exPs.map partToSTok)) = some "s-k-t".toList := by
  decide +kernel

/-- the hypothesis of X10 holds on it -/
example : ∀ p ∈ exPs, ∀ n, p = .interp n → ∀ v, rhoOf exC n = some v → Str.destring v = v := by
  intro p hp n hn v hv
  simp only [exPs, List.mem_cons, List.not_mem_nil, or_false] at hp
  rcases hp with rfl | rfl | rfl
  · cases hn
  · cases hn
    have h : rhoOf exC "a".toList = some "k".toList := by decide +kernel
    rw [h] at hv
    cases hv
    decide +kernel
  · cases hn

/-- both sides fail together: an unknown variable, and a cycle `@a: @a` -/
example : Str.evalParts (rhoOf exC) [.interp "z".toList] = none
    ∧ selText (Vars.resolveSel exC ([Str.Part.interp "z".toList].map partToSTok)) = none
    ∧ Str.evalParts (rhoOf [[("a", [.ref "a"])]]) [.interp "a".toList] = none
    ∧ (match Vars.resolveSel [[("a", [.ref "a"])]] ([Str.Part.interp "a".toList].map partToSTok) with
        | .error .hang => true
        | _ => false) = true := by
  decide +kernel

end Lessm.Cross
