/-
  C20 (mixin part)  A mixin that calls itself without a reachable base case is detected and reported
       as a compilation error rather than hanging or exhausting the interpreter stack; guarded
       recursion shallower than the built-in depth limit still expands completely.

  The model `evalItems tbl gas depth inExp sc me items` (Lessm/Model/Mixin.lean) carries a model-only
  `gas` that makes the Lean definition terminate (`.error .crash` when it runs out, standing for the
  interpreter stack).  The real code has no such counter.  What is shown here is that `gas` is never
  the binding constraint: the depth limit of deferred.py (64) alone bounds the recursion.

  Vocabulary (Lessm/Lemmas/TermMixinLemmas.lean):
    `nestItems items`        static rule nesting of an item list (`0` for `[]`, `1` for a list of
                             declarations and calls, `+ 1` through every nested rule)
    `nestTbl tbl`            the maximum of `nestItems` over all mixin bodies and plain-rule bodies
    `levelsLeft inExp depth` the number of call levels available below a call met at that counter:
                             `64 - depth` inside an expansion, `65` outside
    `gasBound tbl items`     `nestItems items + 65 * nestTbl tbl`
    `gasBoundSheet sheet`    `66 * nestTbl (buildTable sheet)`
    `callDepth inExp depth`  (Lessm/Spec/MixinSpec.lean) the counter handed to a call
    `quietItems items`       literal declarations and, recursively, rules of such: items that cannot
                             fail
    `Reaches P name items`   `items` contains the argument-less call of `name`, directly or inside nested
                             rules, the items in front of it satisfying `P` at every level
    `loopDef`, `countdownSheet n`   `.loop(@i) when (@i > 0) { w: @i; .loop(@i - 1); }`, and that
                             definition followed by `.a { .loop(n); }`

  `C20_mixin_gas_enough_depth` and `C20_mixin_gas_enough` (M2) stand in
  Lessm/Lemmas/TermMixinLemmas.lean, where later lemmas use them.
-/
import Lessm.Lemmas.TermMixinLemmas

namespace Lessm.Mixin
open Lessm.Vars Lessm.Sel

/-! ### M1: gas monotonicity -/

/-- **C20_mixin_gas_mono**: more gas never changes a result that did not run out of gas. -/
theorem C20_mixin_gas_mono (tbl : Table) (g g' d : Nat) (ie : Bool) (sc : Scope) (me : List Sel)
    (items : List Item) (r : Except Err (List (String × String) × List OutRule))
    (h : evalItems tbl g d ie sc me items = r) (hr : r ≠ .error .crash) (hg : g ≤ g') :
    evalItems tbl g' d ie sc me items = r := by
  subst h
  exact ((evalItems_crashLe tbl g g' hg d ie sc me items).eq hr).symm

/-- **C20_mixin_gas_mono_compile**: the same for a whole sheet. -/
theorem C20_mixin_gas_mono_compile (g g' : Nat) (sheet : List Top) (r : Except Err (List OutRule))
    (h : compile g sheet = r) (hr : r ≠ .error .crash) (hg : g ≤ g') : compile g' sheet = r := by
  subst h
  simp only [C05_rule_still_emitted] at hr ⊢
  exact ((compileRules_crashLe _ g g' hg _).eq hr).symm

/-! ### M2: the depth limit alone bounds the recursion -/

/-- **C20_mixin_gas_irrelevant**: from `gasBound` on, the result does not depend on the gas. -/
theorem C20_mixin_gas_irrelevant (tbl : Table) (g d : Nat) (ie : Bool) (sc : Scope) (me : List Sel)
    (items : List Item) (h : gasBound tbl items ≤ g) :
    evalItems tbl g d ie sc me items = evalItems tbl (gasBound tbl items) d ie sc me items :=
  C20_mixin_gas_mono tbl _ g d ie sc me items _ rfl
    (C20_mixin_gas_enough tbl _ d ie sc me items (Nat.le_refl _)) h

/-- **C20_mixin_total**: `compile` is total in the sense that matters: there is an explicit bound
    `gasBoundSheet sheet = 66 * nestTbl (buildTable sheet)` from which on the result is the same
    for every gas, and is not "interpreter stack exhausted". -/
theorem C20_mixin_total (sheet : List Top) :
    ∀ g, gasBoundSheet sheet ≤ g →
      compile g sheet = compile (gasBoundSheet sheet) sheet ∧
      compile (gasBoundSheet sheet) sheet ≠ .error .crash := by
  intro g hg
  have hne : compile (gasBoundSheet sheet) sheet ≠ .error .crash := by
    rw [C05_rule_still_emitted]
    exact compileRules_ne_crash _ _ _ (gasBound_rule_le sheet)
  exact ⟨C20_mixin_gas_mono_compile _ g sheet _ rfl hne hg, hne⟩

/-! ### M3: recursion without a base case is reported -/

/-- **C20_mixin_trap**: let `C` be a set of mixin names each of which has exactly one definition,
    without parameters and without guard, whose body contains, directly or inside nested rules, the
    call of a member of `C` (anything may stand in front of it).  Then every call of a member of `C`,
    at every counter, in every scope, with every gas, is an error; and with `gasBound` units of gas the
    error is not "out of gas": it is a compilation error (the `NameError` of the depth limit, or an
    error raised earlier by an item in front of one of the calls). -/
theorem C20_mixin_trap (tbl : Table) (C : String → Prop)
    (hC : ∀ n, C n → ∃ n' body, C n' ∧ tbl.candidates n = [⟨[], [], body⟩] ∧
      Reaches (fun _ => True) n' body)
    (n : String) (hn : C n) (g d : Nat) (ie : Bool) (sc : Scope) (me : List Sel)
    (rest : List Item) :
    ∃ e, evalItems tbl g d ie sc me (.call n [] :: rest) = .error e ∧
      (gasBound tbl (.call n [] :: rest) ≤ g → e ≠ .crash) := by
  -- `trap_err` with the family of all errors
  obtain ⟨e, he, _⟩ := trap_err tbl (nm := fun n => n) (C := C) (P := fun _ => True)
    (S := fun _ _ _ => True) (hS1 := fun _ _ => trivial) (hS2 := fun _ => trivial)
    (hP := by intros; trivial)
    (hC := fun i hi => by
      obtain ⟨n', body, h1, h2, h3⟩ := hC i hi
      exact ⟨n', body, h1, fun _ _ _ => trivial, h2, h3⟩)
    _ n hn d ie rfl g sc me rest
  refine ⟨e, he, fun hg hc => ?_⟩
  subst hc
  exact C20_mixin_gas_enough tbl g d ie sc me _ hg he

/-- **C20_mixin_chain**: a chain `nm 0 → nm 1 → nm 2 → …` of singly defined, parameterless,
    unguarded mixins, the body of `nm i` reaching the call of `nm (i + 1)` behind items that cannot
    fail: the call of `nm i` met at counter `callDepth ie d` is the `NameError` of the mixin whose call
    would get counter 65. -/
theorem C20_mixin_chain (tbl : Table) (nm : Nat → String)
    (h : ∀ i, ∃ body, tbl.candidates (nm i) = [⟨[], [], body⟩] ∧
      Reaches (fun pre => quietItems pre = true) (nm (i + 1)) body)
    (i g d : Nat) (ie : Bool) (sc : Scope) (me : List Sel) (rest : List Item)
    (hg : gasBound tbl (.call (nm i) [] :: rest) ≤ g) :
    evalItems tbl g d ie sc me (.call (nm i) [] :: rest) =
      .error (.nameError (nm (i + (65 - callDepth ie d)))) := by
  obtain ⟨e, he, hc | hc⟩ := chain_err tbl nm h i g d ie sc me rest
  · subst hc; exact absurd he (C20_mixin_gas_enough tbl g d ie sc me _ hg)
  · rw [he, hc]

/-- **C20_mixin_cycle**: a cycle `names[0] → names[1] → … → names[k-1] → names[0]` of any length
    `k ≥ 1`.  The error names the mixin met at depth 65: from outside any expansion
    (`callDepth false d = 0`) that is `names[(i + 65) % k]`. -/
theorem C20_mixin_cycle (tbl : Table) (names : List String) (hk : 0 < names.length)
    (h : ∀ (i : Nat) (hi : i < names.length), ∃ body,
      tbl.candidates names[i] = [⟨[], [], body⟩] ∧
      Reaches (fun pre => quietItems pre = true)
        (names[(i + 1) % names.length]'(Nat.mod_lt _ hk)) body)
    (i : Nat) (hi : i < names.length) (g d : Nat) (ie : Bool) (sc : Scope) (me : List Sel)
    (rest : List Item) (hg : gasBound tbl (.call names[i] [] :: rest) ≤ g) :
    evalItems tbl g d ie sc me (.call names[i] [] :: rest) =
      .error (.nameError
        (names[(i + (65 - callDepth ie d)) % names.length]'(Nat.mod_lt _ hk))) := by
  have := C20_mixin_chain tbl (fun j => names[j % names.length]'(Nat.mod_lt _ hk))
    (fun j => by simpa only [Nat.mod_add_mod] using h (j % names.length) (Nat.mod_lt _ hk))
    i g d ie sc me rest
  simp only [Nat.mod_eq_of_lt hi] at this
  exact this hg

/-- **C20_mixin_self_nested**: unguarded self recursion through nested rules: `m` has exactly one
    definition, without parameters and without guard, whose body contains the call `m()` at any rule
    depth, the items in front of it (at every level) being literal declarations or rules of such.
    With `gasBound` units of gas the call of `m` is `NameError m`, for every counter, scope and
    selector. -/
theorem C20_mixin_self_nested (tbl : Table) (m : String) (body : List Item)
    (hc : tbl.candidates m = [⟨[], [], body⟩])
    (hb : Reaches (fun pre => quietItems pre = true) m body)
    (g d : Nat) (ie : Bool) (sc : Scope) (me : List Sel) (rest : List Item)
    (hg : gasBound tbl (.call m [] :: rest) ≤ g) :
    evalItems tbl g d ie sc me (.call m [] :: rest) = .error (.nameError m) :=
  C20_mixin_chain tbl (fun _ => m) (fun _ => ⟨body, hc, hb⟩) 0 g d ie sc me rest hg

/-- **C20_mixin_self**: the recursive call is a direct item of the body, behind literal
    declarations (or rules of literal declarations). -/
theorem C20_mixin_self (tbl : Table) (m : String) (pre post : List Item)
    (hc : tbl.candidates m = [⟨[], [], pre ++ .call m [] :: post⟩])
    (hq : quietItems pre = true)
    (g d : Nat) (ie : Bool) (sc : Scope) (me : List Sel) (rest : List Item)
    (hg : gasBound tbl (.call m [] :: rest) ≤ g) :
    evalItems tbl g d ie sc me (.call m [] :: rest) = .error (.nameError m) :=
  C20_mixin_self_nested tbl m _ hc (.here pre post hq) g d ie sc me rest hg

/-- **C20_mixin_self_compile**: at the level of a sheet: if the first rule of the sheet reaches
    (behind items that cannot fail) the call of such a mixin, compilation reports `NameError m`, with
    any gas from `gasBoundSheet sheet` on. -/
theorem C20_mixin_self_compile (sheet : List Top) (m : String) (mbody : List Item)
    (sel : List Tok) (body : List Item) (rs : List (List Tok × List Item))
    (hc : (buildTable sheet).candidates m = [⟨[], [], mbody⟩])
    (hm : Reaches (fun pre => quietItems pre = true) m mbody)
    (hr : rulesOf sheet = (sel, body) :: rs)
    (hb : Reaches (fun pre => quietItems pre = true) m body)
    (g : Nat) (hg : gasBoundSheet sheet ≤ g) :
    compile g sheet = .error (.nameError m) := by
  obtain ⟨e, he, hse⟩ := reaches_err (buildTable sheet) (fun e => e = .crash ∨ e = .nameError m)
    (.inl rfl) 0 false m (fun pre => quietItems pre = true)
    (fun g sc me post => chain_err (buildTable sheet) (fun _ => m) (fun _ => ⟨mbody, hc, hm⟩)
      0 g 0 false sc me post)
    (fun pre hp g sc me e he => .inl (quiet_error _ hp he)) body hb g [[], []]
    (identParse none sel)
  rcases hse with rfl | rfl
  · exact absurd he (C20_mixin_gas_enough _ g _ _ _ _ _ (Nat.le_trans
      (gasBound_rule_le sheet (sel, body) (by rw [hr]; exact List.mem_cons_self)) hg))
  · rw [C05_rule_still_emitted, hr]
    simp only [compileRules, compileRule, he]
    rfl

/-! ### M4: guarded recursion on both sides of the limit -/

/-- **C20_mixin_countdown_items**: `.loop(k)` called with counter `callDepth ie d`, in any table
    where `.loop` is `.loop(@i) when (@i > 0) { w: @i; .loop(@i - 1); }` only, with any argument
    that evaluates to the numeral `k`: if the `k + 1` nested calls stay within the limit, the result is
    `w: k; w: k-1; …; w: 1` (gas `k + 1` suffices); otherwise it is `NameError .loop` (gas 66
    suffices). -/
theorem C20_mixin_countdown_items (tbl : Table) (hc : tbl.candidates ".loop" = [loopDef])
    (k g d : Nat) (ie : Bool) (sc : Scope) (me : List Sel) (a : Arg)
    (ha : evalArg sc a = .ok [.lit (toString k)]) :
    (callDepth ie d + k ≤ 64 → k + 1 ≤ g →
      evalItems tbl g d ie sc me [.call ".loop" [a]] =
        .ok ((List.range k).map (fun j => ("w", toString (k - j))), [])) ∧
    (65 ≤ callDepth ie d + k → 66 ≤ g →
      evalItems tbl g d ie sc me [.call ".loop" [a]] = .error (.nameError ".loop")) := by
  have h := loop_eval tbl hc _ k g d ie sc me a ha rfl
  refine ⟨fun hd hg => ?_, fun hd hg => ?_⟩
  · rw [h (Nat.lt_of_le_of_lt (Nat.min_le_left ..) hg),
      if_pos (Nat.lt_sub_iff_add_lt'.mpr (Nat.lt_succ_of_le hd))]
    rfl
  · rw [h (Nat.lt_of_le_of_lt (Nat.min_le_right ..) (Nat.lt_of_le_of_lt (Nat.sub_le ..) hg)),
      if_neg (fun h' => Nat.not_le_of_gt (Nat.lt_sub_iff_add_lt'.mp h') hd)]

/-- **C20_mixin_countdown**: `.loop(@i) when (@i > 0) { w: @i; .loop(@i - 1); }  .a { .loop(n); }`
    for `1 ≤ n ≤ 64` compiles to `.a { w: n; w: n-1; …; w: 1 }` (any gas from `n + 1` on). -/
theorem C20_mixin_countdown (n g : Nat) (h1 : 1 ≤ n) (h64 : n ≤ 64) (hg : n + 1 ≤ g) :
    compile g (countdownSheet n) =
      .ok [⟨[[".a"]], (List.range n).map (fun j => ("w", toString (n - j)))⟩] := by
  rw [compile_countdownSheet n g (Nat.lt_of_le_of_lt (Nat.min_le_left ..) hg),
    if_pos (Nat.lt_succ_of_le h64), if_neg (Nat.ne_of_gt h1)]
  rfl

/-- **C20_mixin_countdown_zero**: `.loop(0)` fails the guard at once: nothing is emitted. -/
theorem C20_mixin_countdown_zero (g : Nat) (hg : 1 ≤ g) : compile g (countdownSheet 0) = .ok [] :=
  compile_countdownSheet 0 g hg

/-- **C20_mixin_countdown_limit**: for every `n ≥ 65` the same sheet is the compilation error
    `NameError .loop` (any gas from 66 on): the call `.loop(n - 65)` would be the 66th level. -/
theorem C20_mixin_countdown_limit (n g : Nat) (h65 : 65 ≤ n) (hg : 66 ≤ g) :
    compile g (countdownSheet n) = .error (.nameError ".loop") := by
  rw [compile_countdownSheet n g (Nat.lt_of_le_of_lt (Nat.min_le_right ..) hg),
    if_neg (Nat.not_lt_of_le h65)]

/-! ### non-vacuity

Concrete evaluations go through the structural evaluator `evalF` / `compileRulesF`
(Lessm/Lemmas/MixinLemmas.lean, `evalF_sound`, `compile_of_F`), as in Props/C05.lean. -/

/-- `.f { .f(); }  .r { .f(); }` -/
private def sheetF : List Top :=
  [.mdef ".f" ⟨[], [], [.call ".f" []]⟩, .rule [".r"] [.call ".f" []]]

/-- the bound of `C20_mixin_total` is sharp on this sheet: 66 units of gas are enough and 65 are
    not; the same two lines show that `r ≠ .error .crash` cannot be dropped from
    `C20_mixin_gas_mono` -/
example : gasBoundSheet sheetF = 66 := by decide +kernel
example : compile 65 sheetF = .error .crash := compile_of_F 400 _ _ _ (by decide +kernel)
example : compile 66 sheetF = .error (.nameError ".f") := compile_of_F 400 _ _ _ (by decide +kernel)

/-- the hypotheses of `C20_mixin_self_compile` hold for it: every gas from 66 on -/
example (g : Nat) (hg : 66 ≤ g) : compile g sheetF = .error (.nameError ".f") :=
  C20_mixin_self_compile sheetF ".f" [.call ".f" []] [".r"] [.call ".f" []] []
    (by decide +kernel) (.here [] [] rfl) rfl (.here [] [] rfl) g hg

/-- recursion through nested rules, behind declarations:
    `.f { c: red; .x { d: 1; .y { .f(); } e: 2 } z: 3 }  .r { a: b; .f(); }` -/
private def bodyN : List Item :=
  [.decl "c" [.lit "red"],
   .rule [".x"] [.decl "d" [.lit "1"], .rule [".y"] [.call ".f" []], .decl "e" [.lit "2"]],
   .decl "z" [.lit "3"]]
private def sheetN : List Top :=
  [.mdef ".f" ⟨[], [], bodyN⟩, .rule [".r"] [.decl "a" [.lit "b"], .call ".f" []]]

example : gasBoundSheet sheetN = 198 := by decide +kernel
example (g : Nat) (hg : 198 ≤ g) : compile g sheetN = .error (.nameError ".f") :=
  C20_mixin_self_compile sheetN ".f" bodyN [".r"] _ [] (by decide +kernel)
    (.inside [.decl "c" [.lit "red"]] [".x"] _ [.decl "z" [.lit "3"]] rfl
      (.inside [.decl "d" [.lit "1"]] [".y"] _ [.decl "e" [.lit "2"]] rfl (.here [] [] rfl)))
    rfl (.here [.decl "a" [.lit "b"]] [] rfl) g hg
/-- … and the executable model agrees -/
example : compile 198 sheetN = .error (.nameError ".f") := compile_of_F 600 _ _ _ (by decide +kernel)

/-- the side condition on the items in front of the call matters for *which* error is reported
    (`C20_mixin_self`), not for the fact that one is (`C20_mixin_trap`):
    `.f { w: @nope; .f(); }` -/
private def tblU : Table := ⟨[(".f", ⟨[], [], [.decl "w" [.ref "nope"], .call ".f" []]⟩)], []⟩

example : evalItems tblU 200 0 false [[], []] [[".r"]] [.call ".f" []] = .error (.unknownVar "nope") :=
  evalF_sound 400 (by decide +kernel)
example (g d : Nat) (ie : Bool) (sc : Scope) (me : List Sel) :
    ∃ e, evalItems tblU g d ie sc me [.call ".f" []] = .error e ∧
      (gasBound tblU [.call ".f" []] ≤ g → e ≠ .crash) :=
  C20_mixin_trap tblU (· = ".f")
    (fun n hn => ⟨".f", _, rfl, by subst hn; decide +kernel, .here [.decl "w" [.ref "nope"]] [] trivial⟩)
    ".f" rfl g d ie sc me []

/-- a cycle of length 3: `.a { .b(); }  .b { w: 1; .c(); }  .c { .x { .a(); } }`.  From outside an
    expansion the error names `names[(0 + 65) % 3] = .c`. -/
private def tbl3 : Table :=
  ⟨[(".a", ⟨[], [], [.call ".b" []]⟩), (".b", ⟨[], [], [.decl "w" [.lit "1"], .call ".c" []]⟩),
    (".c", ⟨[], [], [.rule [".x"] [.call ".a" []]]⟩)], []⟩

example (g : Nat) (sc : Scope) (me : List Sel) (hg : gasBound tbl3 [.call ".a" []] ≤ g) :
    evalItems tbl3 g 0 false sc me [.call ".a" []] = .error (.nameError ".c") :=
  C20_mixin_cycle tbl3 [".a", ".b", ".c"] (by decide +kernel)
    (fun i hi => match i, hi with
      | 0, _ => ⟨[.call ".b" []],
          (by decide +kernel : tbl3.candidates ".a" = [⟨[], [], [.call ".b" []]⟩]),
          .here [] [] rfl⟩
      | 1, _ => ⟨[.decl "w" [.lit "1"], .call ".c" []],
          (by decide +kernel : tbl3.candidates ".b" = [⟨[], [], [.decl "w" [.lit "1"], .call ".c" []]⟩]),
          .here [.decl "w" [.lit "1"]] [] rfl⟩
      | 2, _ => ⟨[.rule [".x"] [.call ".a" []]],
          (by decide +kernel : tbl3.candidates ".c" = [⟨[], [], [.rule [".x"] [.call ".a" []]]⟩]),
          .inside [] [".x"] _ [] rfl (.here [] [] rfl)⟩)
    0 (by decide +kernel) g 0 false sc me [] hg
example : gasBound tbl3 [.call ".a" []] = 131 := by decide +kernel
example : evalItems tbl3 131 0 false [[], []] [[".r"]] [.call ".a" []] = .error (.nameError ".c") :=
  evalF_sound 400 (by decide +kernel)

/-- the countdown: the theorem and the executable model agree on both sides of the limit -/
example : compile 4 (countdownSheet 3) = .ok [⟨[[".a"]], [("w", "3"), ("w", "2"), ("w", "1")]⟩] := by
  rw [C20_mixin_countdown 3 4 (by omega) (by omega) (by omega)]; decide +kernel
example : compile 4 (countdownSheet 3) = .ok [⟨[[".a"]], [("w", "3"), ("w", "2"), ("w", "1")]⟩] :=
  compile_of_F 50 _ _ _ (by decide +kernel)
example : compile 3 (countdownSheet 3) = .error .crash := compile_of_F 50 _ _ _ (by decide +kernel)
example : compile 66 (countdownSheet 64) =
    .ok [⟨[[".a"]], (List.range 64).map (fun j => ("w", toString (64 - j)))⟩] :=
  C20_mixin_countdown 64 66 (by omega) (by omega) (by omega)
example : compile 66 (countdownSheet 65) = .error (.nameError ".loop") :=
  C20_mixin_countdown_limit 65 66 (by omega) (by omega)
example : compile 66 (countdownSheet 1000) = .error (.nameError ".loop") :=
  C20_mixin_countdown_limit 1000 66 (by omega) (by omega)

end Lessm.Mixin
