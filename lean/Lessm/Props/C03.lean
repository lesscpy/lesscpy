/-
  C03  Variables: lexical scoping with hoisted definitions, lazy substitution until no variable
       remains, unknown variables are errors, blocks do not leak definitions.

  Vocabulary defined in Lessm/Lemmas/VarsLemmas.lean and used in statements below:
    `declsOfList sheet`   the declarations `(property, value)` written anywhere in the sheet
    `LitDecl fuel src d`  := ∃ sc v, (d.1, v) ∈ src ∧ expand sc fuel v = .ok (d.2.map VTok.lit)
                          (the strings of the output declaration `d`, read as literal tokens, are the
                          successful substitution of a source declaration of the same property)

  `C03_no_ref` stands in Lessm/Lemmas/VarsLemmas.lean, where later lemmas use it.
-/
import Lessm.Lemmas.VarsLemmas

namespace Lessm.Vars

/-- model = spec under the two scoping disciplines alone (`VarOK` also forbids declarations at top
    level, which the proof does not need) -/
theorem compile_eq_spec_of_disciplines (fuel : Nat) (sheet : List Item)
    (hT : topOKAux (allDefsList sheet) [] sheet = true)
    (hB : blocksOKList (allDefsList sheet) sheet = true) :
    compile fuel sheet = specCompile fuel sheet := by
  have hG : passGList [[]] sheet = ([blockDefsAux [] sheet], (passGList [[]] sheet).2) := by
    rw [← passGList_fst [] [] sheet]
  have hV : ValIn (allDefsList sheet) [blockDefsAux [] sheet] := by
    intro n v hv
    rw [lookup_singleton] at hv
    exact blockDefs_get_some hv
  have := model_top fuel (allDefsList sheet) sheet [] [] (blockDefsAux [] sheet) [] hT hB
    (fun d hd => hd) hV (fun n v hv => by simp [Frame.get] at hv) (fun n => by simp [Frame.get])
  unfold compile specCompile
  rw [hG]
  simp only [this, blockDefs]
  cases specList fuel [blockDefsAux [] sheet] [] sheet <;> rfl

/-- **C03** (model = spec): on every sheet that satisfies the syntactic side condition `VarOK`
    (Lessm/Spec/VarsSpec.lean) the two-pass compiler over the frame stack
    computes exactly the declarative semantics (nearest enclosing block that defines the name, anywhere
    in that block; else the last top-level definition), for every fuel, including the error cases. -/
theorem C03 (fuel : Nat) (sheet : List Item) (h : VarOK sheet = true) :
    compile fuel sheet = specCompile fuel sheet := by
  simp only [VarOK, Bool.and_eq_true] at h
  exact compile_eq_spec_of_disciplines fuel sheet h.1.2 h.2

/-- **C03_no_ref_decl**: a declaration that evaluates successfully emits the text of a value
    without references, which is a list of literal tokens printed as they are. -/
theorem C03_no_ref_decl (fuel : Nat) (es es' : Scope) (path : List (List String)) (p : String)
    (v : Value) (ds : List (String × List String)) (out : List OutRule)
    (h : passEItem fuel es path (.decl p v) = .ok (es', ds, out)) :
    ∃ v', expand es fuel v = .ok v' ∧ hasRef v' = false ∧ v' = (litText v').map VTok.lit ∧
      es' = es ∧ ds = [(p, litText v')] ∧ out = [] := by
  obtain ⟨v', he, h⟩ := Except.bind_eq_ok.mp h
  cases h
  have hn := C03_no_ref es fuel v v' he
  exact ⟨v', he, hn, litText_of_noRef v' hn, rfl, rfl, rfl⟩

/-- **C03_no_ref_compile**: every declaration of every rule of a successful `compile` output is
    built from literal tokens only: its strings, read as literals, are the result of the successful
    substitution of a declaration of that property written in the sheet. -/
theorem C03_no_ref_compile (fuel : Nat) (sheet : List Item) (out : List OutRule)
    (h : compile fuel sheet = .ok out) :
    ∀ o ∈ out, ∀ d ∈ o.decls, LitDecl fuel (declsOfList sheet) d := by
  obtain ⟨r, hp, h⟩ := Except.bind_eq_ok.mp h
  cases h
  exact (passEList_lit fuel _ _ _ _ r (fun x hx => by rwa [gDeclsList_passGList] at hx) hp).2

/-- **C03_unknown**: a reference with no visible definition is an error, never emitted. -/
theorem C03_unknown (sc : Scope) (fuel : Nat) (n : String) (rest : Value) (h : lookup sc n = none) :
    expand sc (fuel + 1) (.ref n :: rest) = .error (.unknownVar n) := by
  simp [expand, hasRef, substOnce, h]

/-- **C03_unknown_sel**: the same for an interpolation in a selector. -/
theorem C03_unknown_sel (sc : Scope) (n : String) (rest : List STok) (h : lookup sc n = none) :
    resolveSel sc (.interp n :: rest) = .error (.unknownVar n) := by
  simp [resolveSel, expand, hasRef, substOnce, h]

/-- **C03_local**: evaluating a rule leaves the caller's scope exactly as it was (a definition inside
    a block is invisible outside it), and contributes no declaration to the enclosing rule. -/
theorem C03_local (fuel : Nat) (es es' : Scope) (path : List (List String)) (sel : List STok)
    (res : Option (List String)) (body : List GItem) (ds : List (String × List String))
    (out : List OutRule)
    (h : passEItem fuel es path (.rule sel res body) = .ok (es', ds, out)) : es' = es ∧ ds = [] := by
  rw [passEItem_rule] at h
  obtain ⟨name, _, h⟩ := Except.bind_eq_ok.mp h
  obtain ⟨rb, _, h⟩ := Except.bind_eq_ok.mp h
  cases h
  exact ⟨rfl, rfl⟩

/-- **C03_innermost**: dictionary semantics of a frame; the innermost frame is searched first. -/
theorem C03_innermost (f : Frame) (sc : Scope) (n m : String) (v : Value) :
    lookup (f :: sc) n = (match f.get n with | some v => some v | none => lookup sc n) ∧
    Frame.get (Frame.set f n v) n = some v ∧
    (m ≠ n → Frame.get (Frame.set f n v) m = Frame.get f m) :=
  ⟨rfl, Frame.get_set_self f n v, fun h => Frame.get_set_ne f h v⟩

/-- for the examples: a sheet with a forward reference at top level (`@s`), a chain `@c -> @b -> @a`,
    a nested block that shadows `@a`, an interpolated selector and a top-level redefinition before use
    (`@t`) -/
private def sheet1 : List Item :=
  [ .vdef "a" [.lit "1"],
    .vdef "b" [.ref "a", .lit "x"],
    .rule [.lit ".r", .interp "s"]
      [ .vdef "c" [.ref "b"],
        .decl "w" [.ref "c", .ref "a"],
        .rule [.lit ".in", .interp "c"]
          [ .vdef "a" [.lit "2"], .decl "v" [.ref "a", .ref "c"] ] ],
    .vdef "s" [.lit "foo"],
    .vdef "t" [.lit "1"],
    .vdef "t" [.lit "2"],
    .rule [.lit ".q"] [.decl "y" [.ref "t"]] ]

private theorem sheet1_ok : VarOK sheet1 = true := by decide +kernel
example : VarOK sheet1 = true := sheet1_ok

example : compile 5 sheet1 = .ok
    [ ⟨[[".r", "foo"]], [("w", ["1", "x", "1"])]⟩,
      ⟨[[".r", "foo"], [".in", "1", "x"]], [("v", ["2", "2", "x"])]⟩,
      ⟨[[".q"]], [("y", ["2"])]⟩ ] := by decide +kernel

example : specCompile 5 sheet1 = compile 5 sheet1 := (C03 5 sheet1 sheet1_ok).symm

/-- too little fuel for the chain: both sides report the same error -/
example : compile 2 sheet1 = .error .hang ∧ specCompile 2 sheet1 = .error .hang := by decide +kernel

/-- an unknown variable is an error on both sides -/
example : VarOK [.rule [.lit ".a"] [.decl "w" [.ref "nope"]]] = true
    ∧ compile 3 [.rule [.lit ".a"] [.decl "w" [.ref "nope"]]] = .error (.unknownVar "nope") := by
  decide +kernel

/-- the hypothesis of C03_unknown / C03_local is satisfiable -/
example : lookup [[("a", [.lit "1"])]] "b" = none := by decide +kernel
example : passEItem 3 [[("a", [.lit "1"])]] [] (.rule [.lit ".x"] none [.vdef "z" [.lit "9"], .decl "p" [.ref "z"]])
    = .ok ([[("a", [.lit "1"])]], [], [⟨[[".x"]], [("p", ["9"])]⟩]) := by rfl

/-- an interpolation in a selector is substituted until no variable is left (`@a -> @b -> k`), as
    in a declaration value -/
example : resolveSel [[("b", [.lit "k"]), ("a", [.ref "b"])]] [.lit ".x-", .interp "a"]
    = .ok [".x-", "k"] := by decide +kernel

/-- a cyclic definition (`@a -> @b -> @a`) interpolated in a selector is an error, never emitted -/
example : resolveSel [[("a", [.ref "b"]), ("b", [.ref "a"])]] [.lit ".x-", .interp "a"]
    = .error .hang := by decide +kernel

/-- `VarOK` is not superfluous: a name defined both before and after the unit that uses it (finding
    C03-toplevel-redef) is rejected by `VarOK`, and there the model and the semantics differ. -/
example :
    VarOK [.vdef "x" [.lit "1"], .rule [.lit ".a"] [.decl "w" [.ref "x"]], .vdef "x" [.lit "2"]] = false
    ∧ compile 5 [.vdef "x" [.lit "1"], .rule [.lit ".a"] [.decl "w" [.ref "x"]], .vdef "x" [.lit "2"]]
      ≠ specCompile 5 [.vdef "x" [.lit "1"], .rule [.lit ".a"] [.decl "w" [.ref "x"]], .vdef "x" [.lit "2"]] := by
  decide +kernel

end Lessm.Vars
