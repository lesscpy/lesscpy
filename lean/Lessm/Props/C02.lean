/-
  C02  Nested rules flatten to the correct selectors, once each, in source order.

  Models: `Lessm/Model/Nest.lean` (the two passes `passG`, `passE`, and `flat`, the same as one plain recursion),
  `Lessm/Model/Selector.lean` (`identParse`, `rootOne`, `substAmp`, `tuples`).  `Lessm/Lemmas/FixLemmas.lean` (for C10) builds
  on `C02_desc`, `C02_count`, `tuples_mem`, `NoTrail` and `dropLastSpace_id` of this file, Props/C01 and Props/C10 on `C02_sheet`.
-/
import Lessm.Model.Nest

namespace Lessm.Nest
open Lessm.Sel

theorem ownDecls_passGList (st : Stack) (body : List Item) : ownDecls (passGList st body) = srcDecls body := by
  induction body with
  | nil => rfl
  | cons i is ih => cases i <;> simp [passGList, passG, ownDecls, srcDecls, ih]

mutual
/-- **C02_stack** (model = spec): the two passes over the scope stack compute the plain recursive
    flattening, for every tree (any depth, any width), from any stack. -/
theorem C02_stack (st : Stack) : ∀ t : Item, passE (passG st t) = flat (scopename st) t
  | .decl d => by simp [passG, passE, flat]
  | .rule sel body => by
      simp only [passG, passE, flat, scopename, ownDecls_passGList]
      rw [C02_stackL (some (identParse (scopename st) sel) :: st) body]
      simp [scopename]
theorem C02_stackL (st : Stack) : ∀ ts : List Item, passEList (passGList st ts) = flatList (scopename st) ts
  | [] => by simp [passGList, passEList, flatList]
  | i :: is => by
      simp only [passGList, passEList, flatList]
      rw [C02_stack st i, C02_stackL st is]
end

/-- **C02**: the compiler on a top-level rule is the plain recursive flattening: every rule that has declarations
    once, under the selectors of its ancestors combined with its own, a rule before the rules nested in it. -/
theorem C02 (t : Item) : compile t = flat none t := by
  unfold compile; rw [C02_stack]; rfl

theorem C02_sheet (ts : List Item) : compileSheet ts = flatList none ts := by
  unfold compileSheet; rw [C02_stackL]; rfl

mutual
/-- **C02_once_dfs**: every source rule that has declarations yields exactly one output rule,
    carrying exactly its own declarations in order; rules without declarations yield none; the output
    order is depth-first source order with a rule before its nested rules. -/
theorem C02_once_dfs (p : Option (List Sel)) : ∀ t : Item, (flat p t).map (·.decls) = preorderDecls t
  | .decl d => by simp [flat, preorderDecls]
  | .rule sel body => by
      simp only [flat, preorderDecls, List.map_append]
      rw [C02_once_dfsL (some (identParse p sel)) body]
      by_cases h : srcDecls body = [] <;> simp [h]
theorem C02_once_dfsL (p : Option (List Sel)) : ∀ ts : List Item, (flatList p ts).map (·.decls) = preorderDeclsList ts
  | [] => by simp [flatList, preorderDeclsList]
  | i :: is => by
      simp only [flatList, preorderDeclsList, List.map_append]
      rw [C02_once_dfs p i, C02_once_dfsL p is]
end

theorem tuples_length {α} (pool : List α) (r : Nat) : (tuples pool r).length = pool.length ^ r := by
  induction r with
  | zero => simp [tuples]
  | succ r ih =>
    simp only [tuples, List.length_flatMap, List.length_map, ih]
    rw [List.map_const', List.sum_replicate_nat, Nat.pow_succ, Nat.mul_comm]

theorem tuples_mem {α} (pool : List α) (r : Nat) (t : List α) :
    t ∈ tuples pool r ↔ t.length = r ∧ ∀ x ∈ t, x ∈ pool := by
  induction r generalizing t with
  | zero =>
    rw [tuples, List.mem_singleton, List.length_eq_zero_iff]
    exact ⟨fun h => ⟨h, h ▸ List.forall_mem_nil _⟩, (·.1)⟩
  | succ r ih =>
    simp only [tuples, List.mem_flatMap, List.mem_map]
    constructor
    · rintro ⟨p, hp, t', ht', rfl⟩
      exact ⟨congrArg (· + 1) ((ih t').mp ht').1, List.forall_mem_cons.mpr ⟨hp, ((ih t').mp ht').2⟩⟩
    · rintro ⟨hl, hm⟩
      obtain ⟨p, t', rfl⟩ := List.exists_cons_of_length_eq_add_one hl
      exact ⟨p, (List.forall_mem_cons.mp hm).1, t',
        (ih t').mpr ⟨Nat.succ.inj hl, (List.forall_mem_cons.mp hm).2⟩, rfl⟩

/-- **C02_count**: a child selector without `&` is combined with every parent selector (one output
    selector per parent); with k occurrences of `&` it yields one selector per k-tuple of parents. -/
theorem C02_count (ps : List Sel) (name : Sel) :
    (rootOne ps name).length = if countAmp name = 0 then ps.length else ps.length ^ countAmp name := by
  unfold rootOne
  by_cases h : countAmp name = 0 <;> simp [h, tuples_length]

/-- plain substitution of the i-th `&` by the i-th member of the tuple -/
def substSpec : Sel → List Sel → Sel
  | [], _ => []
  | t :: ts, perm =>
      if t == "&" then
        match perm with
        | p :: perm' => p ++ substSpec ts perm'
        | [] => substSpec ts []
      else t :: substSpec ts perm

/-- no token ends in `]`, so none that does stands directly before an `&` (there the code inserts a space: the
    documented `[attr] &` hack, covered by the correspondence run) -/
def PlainAmp (name : Sel) : Prop := ∀ t ∈ name, endsWithBracket t = false
/-- a parent selector as `Identifier.parse` stores it: no trailing `" "` (`dropLastSpace` has nothing to drop) -/
def NoTrail (p : Sel) : Prop := p.getLast? ≠ some " "

theorem dropLastSpace_id (p : Sel) (h : NoTrail p) : dropLastSpace p = p := by
  unfold dropLastSpace
  split
  · next r hr => rw [NoTrail, List.getLast?_eq_head?_reverse, hr] at h; exact absurd rfl h
  · rfl

/-- **C02_amp**: every `&` is replaced, textually and in order, by the corresponding parent selector
    of the tuple; everything else of the child selector is kept. -/
theorem C02_amp (name : Sel) (perm : List Sel) (acc : Sel)
    (hn : PlainAmp name) (hp : ∀ p ∈ perm, NoTrail p ∧ ∀ t ∈ p, endsWithBracket t = false)
    (ha : ∀ t ∈ acc, endsWithBracket t = false) :
    substAmp name perm acc = acc ++ substSpec name perm := by
  induction name generalizing perm acc with
  | nil => simp [substAmp, substSpec]
  | cons t ts ih =>
    obtain ⟨ht, hts⟩ := List.forall_mem_cons.mp hn
    unfold substAmp substSpec
    split
    · cases perm with
      | nil => exact ih [] acc hts hp ha
      | cons p perm' =>
        obtain ⟨⟨hnt, hpb⟩, hp'⟩ := List.forall_mem_cons.mp hp
        have hl : lastEndsBracket acc = false := by
          unfold lastEndsBracket
          split
          · next l hl => exact ha l (List.mem_of_getLast? hl)
          · rfl
        simp only [hl, dropLastSpace_id p hnt, ih perm' _ hts hp' (List.forall_mem_append.mpr ⟨ha, hpb⟩),
          Bool.false_eq_true, if_false, List.append_assoc]
    · rw [ih perm _ hts hp (List.forall_mem_append.mpr ⟨ha, by simpa using ht⟩), List.append_assoc]
      rfl

/-- **C02_desc**: without `&` the child is appended to each parent after one descendant space. -/
theorem C02_desc (ps : List Sel) (name : Sel) (h0 : countAmp name = 0)
    (hps : ∀ p ∈ ps, p ≠ [] ∧ NoTrail p) :
    rootOne ps name = ps.map (fun p => p ++ " " :: name) := by
  unfold rootOne
  simp only [h0, ne_eq, not_true_eq_false, if_false]
  refine List.map_congr_left fun p hp => ?_
  obtain ⟨hne, hnt⟩ := hps p hp
  simp [hne, show p.getLast? ≠ some " " from hnt]

/-- **C02_comb**: a descendant space that would precede a written combinator is dropped — the child's
    leading `>`, `+` or `~` replaces the space. -/
theorem C02_comb (a r : Sel) (e : Tok) (he : isEncLike e = true) (ha : NoTrail a) :
    pairwiseFilter (a ++ " " :: e :: r) = pairwiseFilter (a ++ e :: r) := by
  induction a with
  | nil => simp [pairwiseFilter, he]
  | cons x xs ih =>
    cases xs with
    | nil =>
      have hx : (x == " ") = false := by simpa [NoTrail] using ha
      simp [pairwiseFilter, hx, he]
    | cons y ys =>
      have := ih (by simpa [NoTrail, List.getLast?_cons_cons] using ha)
      simp only [List.cons_append] at this ⊢
      simp only [pairwiseFilter, this]

/-! non-vacuity: the combinations the property names, computed by the model -/
example : identParse (some [[".a"], [".b"]]) [".c", ",", ".d", " "]
    = [[".a", " ", ".c"], [".b", " ", ".c"], [".a", " ", ".d"], [".b", " ", ".d"]] := by decide +kernel
example : identParse (some [[".a"]]) [">", ".b", " "] = [[".a", "?>?", ".b"]] := by decide +kernel
example : identParse (some [[".a"], [".b"]]) ["&", " ", "+", "&", " "]
    = [[".a", "?+?", ".a"], [".a", "?+?", ".b"], [".b", "?+?", ".a"], [".b", "?+?", ".b"]] := by decide +kernel
example : compile (.rule [".a"] [.decl ⟨"x", "1"⟩, .rule [".b", " "] [.decl ⟨"y", "2"⟩, .rule [".c"] [.decl ⟨"z", "3"⟩]], .decl ⟨"w", "4"⟩])
    = [⟨[[".a"]], [⟨"x", "1"⟩, ⟨"w", "4"⟩]⟩, ⟨[[".a", " ", ".b"]], [⟨"y", "2"⟩]⟩, ⟨[[".a", " ", ".b", " ", ".c"]], [⟨"z", "3"⟩]⟩] := by
  decide +kernel

end Lessm.Nest
