/-
  C07  Nested @media blocks bubble to the top level: every declaration list is printed once, under the
       conjunction (`and`) of all enclosing queries in nesting order and under the full selector of its
       rule; a rule's unconditional output precedes its media-conditional output.

       `C07_WF_iff` stands in Lessm/Lemmas/MediaLemmas.lean, where the lemmas about `WF` use it.
-/
import Lessm.Lemmas.MediaLemmas

namespace Lessm.Media
open Lessm.Sel Lessm.Nest

/-- **C07** (model = spec): the tree surgery of `Block.parse` (split into own / inner / media, rotation
    of inner @media blocks out of rules, merging of @media inside @media, dropping of empty blocks),
    printed by `Block.fmt`, yields exactly the declarative semantics, for every sheet. -/
theorem C07 (sheet : List Item) : (observe sheet).map toSTriple = specSheet sheet := by
  rw [observe_eq, map_toSTriple_ofS]

/-- **C07_top**: every block of the compiled sheet is well formed — all blocks inside it, at every
    depth, are rule blocks. -/
theorem C07_top (sheet : List Item) : ∀ b ∈ compileSheet sheet, WF b :=
  WF_evalList none sheet

/-- **C07_top_depth**, the same in words: no block that occurs strictly inside a block of the output,
    at any depth, is an @media block — no rule contains an @media block, no @media block contains
    another one: every @media block of the output is top-level. -/
theorem C07_top_depth (sheet : List Item) :
    ∀ b ∈ compileSheet sheet, ∀ c, Below c b → c.isMedia = false :=
  fun b hb c hc => below_not_media c b hc (C07_top sheet b hb)

/-- **C07_media_len**: every printed style rule sits under at most one @media condition — all
    enclosing conditions have been merged into one query. -/
theorem C07_media_len (sheet : List Item) : ∀ t ∈ observe sheet, t.medias.length ≤ 1 := by
  intro t ht
  rw [observe_eq] at ht
  obtain ⟨⟨m, _, _⟩, _, rfl⟩ := List.mem_map.mp ht
  cases m <;> simp [ofS, ctxOf]

/-- **C07_and**: one more nested query is appended after `and`. -/
theorem C07_and (m : Option Query) (a b : Query) :
    conj (some (conj m a)) b = conj m a ++ ["and"] ++ b := rfl

/-- **C07_and_snoc**: an @media block nested inside the blocks `qs` adds its query `q` as the last
    conjunct. -/
theorem C07_and_snoc (qs : List Query) (q : Query) :
    conjAll (qs ++ [q]) = some (conj (conjAll qs) q) := by
  simp [conjAll, conjFrom, List.foldl_append]

/-- the conjunction of `q₁,…,qₙ` is `q₁ and q₂ and … and qₙ`: no condition lost or duplicated, nesting
    order kept -/
theorem C07_and_intercalate (qs : List Query) (h : qs ≠ []) :
    conjAll qs = some (List.intercalate ["and"] qs) := by
  cases qs with
  | nil => exact absurd rfl h
  | cons q r => exact conjFrom_some q r

/-- a declaration written under the nested queries `q :: qs` (outermost first) inside a rule with
    selector `p` is specified under exactly their conjunction, once -/
theorem C07_and_nested (m : Option Query) (p : Option (List Sel)) (q : Query) (qs : List Query) (d : Decl) :
    specU m p (mediaNest q qs [.decl d]) ++ specB m p (mediaNest q qs [.decl d])
      = [⟨conjFrom m (q :: qs), p.getD [], [d]⟩] := by
  rw [specU_mediaNest, specB_mediaNest]
  simp [declsOf, own, specUList, specBList, specU, specB]

/-- … and so it is printed, at top level -/
theorem C07_and_observed (q : Query) (qs : List Query) (d : Decl) :
    (observe [mediaNest q qs [.decl d]]).map toSTriple
      = [⟨some (List.intercalate ["and"] (q :: qs)), [], [d]⟩] := by
  rw [C07, specSheet, specSheet, List.append_nil, C07_and_nested none none q qs d,
    ← C07_and_intercalate (q :: qs) (by simp)]
  rfl

/-- **C07_and_observed_rule**: the same nest written inside a rule `sel`: the declaration is printed
    once, under the conjunction of the queries and the selector of the rule, out of which the @media
    blocks have bubbled. -/
theorem C07_and_observed_rule (sel : List Tok) (q : Query) (qs : List Query) (d : Decl) :
    (observe [.rule sel [mediaNest q qs [.decl d]]]).map toSTriple
      = [⟨some (List.intercalate ["and"] (q :: qs)), identParse none sel, [d]⟩] := by
  rw [C07, ← C07_and_intercalate (q :: qs) (by simp)]
  simpa [conjAll, specSheet, specU, specB, specUList, specBList, declsOf_mediaNest, own]
    using C07_and_nested none (some (identParse none sel)) q qs d

/-- **C07_order**: the output of an item is its part at the current @media level (every triple under
    exactly the enclosing condition `m`) followed by its bubbled part (every triple under a condition
    that is `m` extended by at least one further query). -/
theorem C07_order (m : Option Query) (p : Option (List Sel)) (i : Item) :
    (∀ t ∈ specU m p i, t.media = m) ∧
    (∀ t ∈ specB m p i, ∃ q, t.media = some q ∧ Extends m q) :=
  ⟨specU_media m p i, specB_media m p i⟩

/-- **C07_order_ne**: what bubbles out of an item is never printed under the enclosing condition
    itself: its condition is strictly longer. -/
theorem C07_order_ne (m : Option Query) (p : Option (List Sel)) (i : Item) :
    ∀ t ∈ specB m p i, t.media ≠ m := by
  intro t ht
  obtain ⟨q, h1, h2⟩ := specB_media m p i t ht
  rw [h1]
  cases m with
  | none => simp
  | some a =>
    -- `q` is `a` followed by `and` and more: it is longer
    obtain ⟨r, rfl⟩ := h2
    intro e
    simpa [mergeQ] using congrArg List.length (Option.some.inj e)

/-- at top level: all unconditional triples of an item come before all its conditional ones -/
theorem C07_order_top (i : Item) :
    (∀ t ∈ specU none none i, t.media = none) ∧ (∀ t ∈ specB none none i, t.media ≠ none) :=
  ⟨specU_media none none i, C07_order_ne none none i⟩

/-- **C07_once**: the declaration lists of the output are, up to order, exactly the non-empty
    declaration lists of the rule and @media bodies of the sheet — each printed once. -/
theorem C07_once (sheet : List Item) :
    List.Perm ((specSheet sheet).map (·.decls)) (allDeclGroupsList sheet) := by
  induction sheet with
  | nil => simp [specSheet, allDeclGroupsList]
  | cons i is ih =>
    simp only [specSheet, allDeclGroupsList]
    rw [List.map_append]
    exact List.Perm.append (once_item none none i) ih

/-- **C07_once_observed**: `C07_once` for what the model prints. -/
theorem C07_once_observed (sheet : List Item) :
    List.Perm ((observe sheet).map (·.decls)) (allDeclGroupsList sheet) := by
  have h : (observe sheet).map (·.decls) = ((observe sheet).map toSTriple).map (·.decls) := by
    rw [List.map_map]; rfl
  rw [h, C07]
  exact C07_once sheet

/-! non-vacuity: the model on concrete sheets -/

-- .a { x:1; @media s { y:2; .b { z:3; @media t { w:4 } } } .c { v:5 } }
example : observe [.rule [".a"] [.decl ⟨"x", "1"⟩,
      .media ["s"] [.decl ⟨"y", "2"⟩, .rule [".b"] [.decl ⟨"z", "3"⟩, .media ["t"] [.decl ⟨"w", "4"⟩]]],
      .rule [".c"] [.decl ⟨"v", "5"⟩]]]
    = [⟨[], [[".a"]], [⟨"x", "1"⟩]⟩,
       ⟨[], [[".a", " ", ".c"]], [⟨"v", "5"⟩]⟩,
       ⟨[["s"]], [[".a"]], [⟨"y", "2"⟩]⟩,
       ⟨[["s"]], [[".a", " ", ".b"]], [⟨"z", "3"⟩]⟩,
       ⟨[["s", "and", "t"]], [[".a", " ", ".b"]], [⟨"w", "4"⟩]⟩] := by decide +kernel

-- @media s { @media t { .a { x:1 } } }  — merged into one top-level block
example : (compileSheet [.media ["s"] [.media ["t"] [.rule [".a"] [.decl ⟨"x", "1"⟩]]]]).map (·.name)
    = [.media ["s", "and", "t"]] := by decide +kernel

-- a rule holding nothing but an @media block is dropped, the @media block stays
example : (compileSheet [.rule [".a"] [.media ["s"] [.decl ⟨"x", "1"⟩]]]).map (·.name)
    = [.media ["s"]] := by decide +kernel

-- empty @media blocks disappear
example : compileSheet [.rule [".a"] [.media ["s"] [.media ["t"] []]]] = [] := by decide +kernel

example : conjAll [["a"], ["b"], ["c"]] = some ["a", "and", "b", "and", "c"] := by decide +kernel

example : allDeclGroupsList [.rule [".a"] [.decl ⟨"x", "1"⟩, .media ["s"] [.decl ⟨"y", "2"⟩, .rule [".b"] []]]]
    = [[⟨"x", "1"⟩], [⟨"y", "2"⟩]] := by decide +kernel

end Lessm.Media
