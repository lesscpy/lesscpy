/-
  C08  Colour literals are normalised and colour arithmetic is channel-wise and clamped.
-/
import Lessm.Model.Color
import Mathlib.Data.Rat.Floor
import Mathlib.Tactic.NormNum

namespace Lessm.Color

def lowerHexChars : List Char := "0123456789abcdef".toList
def isLowerHexB (c : Char) : Bool := lowerHexChars.contains c

/-- a 3- or 6-digit hex literal in any letter case -/
def Valid (s : List Char) : Prop :=
  ∃ ds, s = '#' :: ds ∧ (ds.length = 3 ∨ ds.length = 6) ∧ ∀ c ∈ ds, isHexB c = true

/-- what the proofs use of a hexadecimal digit `c` -/
structure HexFact (c : Char) : Prop where
  lowerHex : isLowerHexB (lowerC c) = true
  hex : isHexB (lowerC c) = true
  val : hexVal (lowerC c) = hexVal c
  idem : lowerC (lowerC c) = lowerC c
  lt : hexVal c < 16

/-- a finite table over the 22 hexadecimal digits, evaluated by the kernel once for all five facts -/
theorem char_fact (c : Char) (h : isHexB c = true) : HexFact c := by
  have table : ∀ c ∈ hexChars, isLowerHexB (lowerC c) = true ∧ isHexB (lowerC c) = true ∧
      hexVal (lowerC c) = hexVal c ∧ lowerC (lowerC c) = lowerC c ∧ hexVal c < 16 := by
    decide +kernel
  unfold isHexB at h
  obtain ⟨h1, h2, h3, h4, h5⟩ := table c (List.contains_iff_mem.mp h)
  exact ⟨h1, h2, h3, h4, h5⟩

theorem length_dbl (l : List Char) : (dbl l).length = 2 * l.length := by
  induction l with
  | nil => rfl
  | cons a l ih => simp only [dbl, List.length_cons, ih, Nat.mul_add]

theorem mem_dbl {c : Char} {l : List Char} : c ∈ dbl l ↔ c ∈ l := by
  induction l with
  | nil => exact Iff.rfl
  | cons a l ih => simp only [dbl, List.mem_cons, ih, or_self_left]

theorem dbl_map (f : Char → Char) (l : List Char) : dbl (l.map f) = (dbl l).map f := by
  induction l with
  | nil => rfl
  | cons a l ih => simp only [List.map_cons, dbl, ih]

theorem pairs_dbl (l : List Char) : pairs (dbl l) = l.map (fun c => hexVal c * 16 + hexVal c) := by
  induction l with
  | nil => rfl
  | cons a l ih => simp only [dbl, pairs, ih, List.map_cons]

theorem pairs_map_lowerC : ∀ l : List Char, (∀ c ∈ l, isHexB c = true) → pairs (l.map lowerC) = pairs l
  | [], _ => rfl
  | [_], _ => rfl
  | a :: b :: l, h => by
    rw [List.map_cons, List.map_cons, pairs, pairs, (char_fact a (h a List.mem_cons_self)).val,
      (char_fact b (h b (List.mem_cons_of_mem _ List.mem_cons_self))).val,
      pairs_map_lowerC l fun c hc => h c (List.mem_cons_of_mem _ (List.mem_cons_of_mem _ hc))]

theorem pairs_spec : ∀ l : List Char, (∀ c ∈ l, hexVal c < 16) →
    (pairs l).length = l.length / 2 ∧ ∀ v ∈ pairs l, v < 256
  | [], _ => ⟨rfl, List.forall_mem_nil _⟩
  | [_], _ => ⟨by simp [pairs], List.forall_mem_nil _⟩
  | a :: b :: l, h => by
    obtain ⟨ih1, ih2⟩ := pairs_spec l fun c hc => h c (List.mem_cons_of_mem _ (List.mem_cons_of_mem _ hc))
    refine ⟨by rw [pairs, List.length_cons, List.length_cons, List.length_cons, ih1, Nat.add_div_right _ Nat.two_pos],
      List.forall_mem_cons.mpr ⟨?_, ih2⟩⟩
    have := h a List.mem_cons_self
    have := h b (List.mem_cons_of_mem _ List.mem_cons_self)
    omega

/-- the six digits a literal stands for: those of the short form doubled -/
def expand (ds : List Char) : List Char := if ds.length = 3 then dbl ds else ds

theorem expand_six {ds : List Char} (h : ds.length = 6) : expand ds = ds :=
  if_neg (by rw [h]; decide)

theorem hexToRgb_eq (ds : List Char) : hexToRgb ('#' :: ds) = pairs (expand ds) := by
  unfold hexToRgb expand
  by_cases h : ds.length = 3
  · rw [if_pos h, pairs_dbl]; simp only [h, beq_self_eq_true, if_true]
  · rw [if_neg h]; simp only [beq_iff_eq, h, if_false]

theorem expand_spec (ds : List Char) (hl : ds.length = 3 ∨ ds.length = 6) (hc : ∀ c ∈ ds, isHexB c = true) :
    (expand ds).length = 6 ∧ ∀ c ∈ expand ds, isHexB c = true := by
  rcases hl with h | h
  · rw [expand, if_pos h, length_dbl, h]; exact ⟨rfl, fun c hm => hc c (mem_dbl.mp hm)⟩
  · rw [expand_six h]; exact ⟨h, hc⟩

theorem fmt_eq (ds : List Char) (hl : ds.length = 3 ∨ ds.length = 6) (hc : ∀ c ∈ ds, isHexB c = true) :
    fmt ('#' :: ds) = some ('#' :: (expand ds).map lowerC) := by
  have hcol : isColor ('#' :: ds) = true := by
    simp only [isColor, List.all_eq_true.mpr hc, Bool.and_true]
    rcases hl with h | h <;> simp [h]
  unfold fmt expand
  rw [if_pos hcol]
  rcases hl with h | h <;> simp [h, dbl_map]

/-- **C08_fmt**: every 3- or 6-digit literal in any case is printed as `#` + six lower-case hex digits
    denoting the same colour. -/
theorem C08_fmt (s : List Char) (h : Valid s) :
    ∃ r, fmt s = some r ∧ r.length = 7 ∧ r.head? = some '#' ∧ (∀ c ∈ r.tail, isLowerHexB c = true)
      ∧ hexToRgb r = hexToRgb s := by
  obtain ⟨ds, rfl, hl, hc⟩ := h
  obtain ⟨h6, hx⟩ := expand_spec ds hl hc
  refine ⟨_, fmt_eq ds hl hc, by rw [List.length_cons, List.length_map, h6], rfl, fun c h => ?_, ?_⟩
  · obtain ⟨d, hd, rfl⟩ := List.mem_map.mp h
    exact (char_fact d (hx d hd)).lowerHex
  · rw [hexToRgb_eq, hexToRgb_eq, expand_six (by rw [List.length_map, h6]), pairs_map_lowerC _ hx]

/-- **C08_idem**: normalising a normalised literal changes nothing. -/
theorem C08_idem (s r : List Char) (h : Valid s) (hr : fmt s = some r) : fmt r = some r := by
  obtain ⟨ds, rfl, hl, hc⟩ := h
  obtain ⟨h6, hx⟩ := expand_spec ds hl hc
  obtain rfl := Option.some.inj ((fmt_eq ds hl hc).symm.trans hr)
  -- the printed digits are six, hexadecimal and in lower case already
  have hf : ∀ c ∈ (expand ds).map lowerC, isHexB c = true ∧ lowerC c = c :=
    List.forall_mem_map.mpr fun c h => have f := char_fact c (hx c h); ⟨f.hex, f.idem⟩
  have h6' : ((expand ds).map lowerC).length = 6 := by rw [List.length_map, h6]
  rw [fmt_eq _ (.inr h6') fun c h => (hf c h).1, expand_six h6', List.map_congr_left fun c h => (hf c h).2,
    List.map_id']

/-- the channel values of a valid literal are bytes -/
theorem C08_lit_range (s : List Char) (h : Valid s) :
    (hexToRgb s).length = 3 ∧ ∀ v ∈ hexToRgb s, v < 256 := by
  obtain ⟨ds, rfl, hl, hc⟩ := h
  obtain ⟨h6, hx⟩ := expand_spec ds hl hc
  obtain ⟨h1, h2⟩ := pairs_spec (expand ds) fun c h => (char_fact c (hx c h)).lt
  rw [hexToRgb_eq]
  exact ⟨by rw [h1, h6], h2⟩

theorem clampInt_neg (x : ℚ) (h : x < 0) : clampInt x = 0 := by
  unfold clampInt
  rw [if_neg (lt_asymm (h.trans (by norm_num))), if_pos h]

theorem clampInt_nonneg (x : ℚ) (h : 0 ≤ x) : clampInt x = min 255 ⌊x⌋.toNat := by
  unfold clampInt
  rw [if_neg (not_lt.mpr h)]
  have e : (255 : ℤ) ≤ ⌊x⌋ ↔ (255 : ℚ) ≤ x := Int.le_floor
  split_ifs with c
  · exact (Nat.min_eq_left ((Int.le_toNat (Int.floor_nonneg.mpr h)).mpr (e.mpr c.le))).symm
  · refine (Nat.min_eq_right ?_).symm
    have : ⌊x⌋ ≤ 255 := Int.floor_le_iff.mpr (lt_of_le_of_lt (not_lt.mp c) (by norm_num))
    exact Int.toNat_le.mpr this

theorem clampInt_le (v : ℚ) : clampInt v ≤ 255 := by
  rcases lt_or_ge v 0 with h | h
  · rw [clampInt_neg v h]; exact Nat.zero_le _
  · rw [clampInt_nonneg v h]; exact Nat.min_le_left _ _

theorem clampInt_nat (n : ℕ) : clampInt (n : ℚ) = min 255 n := by
  rw [clampInt_nonneg _ (Nat.cast_nonneg n), Int.floor_natCast, Int.toNat_natCast]

/-- **C08_chan_add / _mul / _sub / _div**: the channel operation written in plain natural-number arithmetic:
    `+` and `*` saturate at 255, `-` saturates at 0, `/` is the truncated quotient saturated at 255. -/
theorem C08_chan_add (a b : Nat) : chan a b .add = min 255 (a + b) := by
  unfold chan operate; rw [← Nat.cast_add, clampInt_nat]

theorem C08_chan_mul (a b : Nat) : chan a b .mul = min 255 (a * b) := by
  unfold chan operate; rw [← Nat.cast_mul, clampInt_nat]

theorem C08_chan_sub (a b : Nat) (ha : a < 256) : chan a b .sub = a - b := by
  unfold chan operate
  rcases Nat.lt_or_ge a b with h | h
  · rw [clampInt_neg _ (sub_neg.mpr (Nat.cast_lt.mpr h)), Nat.sub_eq_zero_of_le h.le]
  · rw [← Nat.cast_sub h, clampInt_nat]
    exact Nat.min_eq_right ((Nat.sub_le a b).trans (Nat.le_of_lt_succ ha))

theorem C08_chan_div (a b : Nat) (hb : b ≠ 0) : chan a b .div = min 255 (a / b) := by
  -- `hb` is not needed: `x / 0 = 0` in ℚ and in ℕ
  unfold chan operate
  rw [clampInt_nonneg _ (div_nonneg (Nat.cast_nonneg a) (Nat.cast_nonneg b)),
    Rat.floor_natCast_div_natCast, ← Int.natCast_div, Int.toNat_natCast]

/-! a byte is printed as two hex digits `n / 16`, `n % 16`: only the sixteen digits are looked at -/

theorem hexDigit_table : ∀ d < 16, hexVal (hexDigit d) = d ∧ isLowerHexB (hexDigit d) = true := by
  decide +kernel

theorem hex2_roundtrip (n : Nat) (h : n < 256) : pairs (hex2 n) = [n] ∧ ∀ c ∈ hex2 n, isLowerHexB c = true := by
  obtain ⟨h1, l1⟩ := hexDigit_table (n / 16) (Nat.div_lt_of_lt_mul h)
  obtain ⟨h2, l2⟩ := hexDigit_table (n % 16) (Nat.mod_lt _ (by decide))
  refine ⟨?_, List.forall_mem_cons.mpr ⟨l1, List.forall_mem_singleton.mpr l2⟩⟩
  show [hexVal (hexDigit (n / 16)) * 16 + hexVal (hexDigit (n % 16))] = _
  rw [h1, h2, Nat.div_add_mod']

/-- **C08_arith**: the printed result is `#` + six lower-case hex digits, and reading it
    back gives, channel by channel, exactly `chan aᵢ bᵢ op` — every channel depends only on the two
    corresponding input channels. -/
theorem C08_arith (a b : Nat × Nat × Nat) (o : Op)
    (hz : ¬ (o = .div ∧ (b.1 = 0 ∨ b.2.1 = 0 ∨ b.2.2 = 0))) :
    ∃ r, process a o b = some r ∧ r.length = 7 ∧ r.head? = some '#'
      ∧ (∀ c ∈ r.tail, isLowerHexB c = true)
      ∧ hexToRgb r = [chan a.1 b.1 o, chan a.2.1 b.2.1 o, chan a.2.2 b.2.2 o] := by
  have h : ∀ x y, pairs (hex2 (chan x y o)) = [chan x y o] ∧ ∀ c ∈ hex2 (chan x y o), isLowerHexB c = true :=
    fun x y => hex2_roundtrip _ (Nat.lt_succ_of_le (clampInt_le _))
  refine ⟨_, if_neg hz, rfl, rfl, fun c hc => ?_, ?_⟩
  · rcases List.mem_append.mp hc with hc | hc
    · rcases List.mem_append.mp hc with hc | hc
      · exact (h _ _).2 c hc
      · exact (h _ _).2 c hc
    · exact (h _ _).2 c hc
  · -- two digits per channel: the pairs of the concatenation are the pairs of the three parts
    rw [hexToRgb_eq, expand_six rfl]
    show pairs (hex2 _) ++ (pairs (hex2 _) ++ pairs (hex2 _)) = _
    rw [(h _ _).1, (h _ _).1, (h _ _).1]; rfl

/-- non-vacuity: a mixed-case short literal is `Valid`, and an overflowing / underflowing sum is clamped -/
example : Valid "#AbC".toList := ⟨"AbC".toList, by decide +kernel⟩
example : fmt "#AbC".toList = some "#aabbcc".toList := by decide +kernel
example : process (200, 16, 255) .add (100, 1, 1) = some "#ff11ff".toList := by decide +kernel
example : process (1, 16, 255) .sub (2, 1, 1) = some "#000ffe".toList := by decide +kernel

end Lessm.Color
