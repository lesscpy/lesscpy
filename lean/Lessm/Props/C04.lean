/-
  C04  Arithmetic follows precedence, left associativity, parentheses and unit rules.
-/
import Lessm.Model.Expr
import Lessm.Lemmas.ExprParse
import Lessm.Model.ExprGen
import Lessm.Gen.Grammar

namespace Lessm.Expr

def allOps : List Op := [.add, .sub, .mul, .div]

/-- **C04_table**: in the precedence declaration of the current source every arithmetic operator is
    declared, all are `left`, `+` and `-` share a level, `*` and `/` share a strictly higher one. -/
theorem C04_table :
    (∀ o ∈ allOps, (precLookup Gen.precedence (opName o)).map (·.1) = some "left")
    ∧ genLvl .add = genLvl .sub ∧ genLvl .mul = genLvl .div
    ∧ genLvl .add < genLvl .mul ∧ 0 < genLvl .add := by decide +kernel

/-- index of a name in a generated name table -/
def idx (l : List String) (s : String) : Nat := l.idxOf s

/-- the binary productions `expression : expression op expression` of the regenerated grammar and the
    precedence PLY attached to each -/
def binProdPrec (o : Op) : Option (String × Nat) :=
  let e := idx Gen.nonterminals "expression"
  let t := idx Gen.terminals (opName o)
  let i := Gen.prods.idxOf ⟨e, [.nt e, .t t, .nt e]⟩
  if i < Gen.prods.length then
    (Gen.prodPrec.find? (·.1 == i)).map (·.2)
  else none

/-- **C04_prodprec**: each of the four binary productions exists in the grammar the code runs and
    carries exactly the precedence of its operator (so yacc's rule is `reduces genLvl`). -/
theorem C04_prodprec : ∀ o ∈ allOps, binProdPrec o = some ("left", genLvl o) := by decide +kernel

/-- **C04_parse**: flat text is read back as its standard reading — for every tree `e` (any shape and
    size, any operands) that is the standard reading of its own text under the regenerated
    precedence levels, parsing `toks e` yields `e`. -/
theorem C04_parse {α : Type} (e : E α) (h : Canon genLvl e) : parse genLvl (toks e) = some e :=
  parse_toks genLvl e h

/-- fully parenthesised: every child of a binary node is an operand or a parenthesis (`rootLvl … = none`, which
    does not look at the levels); such input is read as written (`C04_parse_paren`) -/
def FullParen {α : Type} : E α → Prop
  | .leaf _ => True
  | .paren e => FullParen e
  | .neg e => FullParen e
  | .bin _ l r => FullParen l ∧ FullParen r ∧ rootLvl genLvl l = none ∧ rootLvl genLvl r = none

theorem C04_parse_paren {α : Type} (e : E α) (h : FullParen e) : parse genLvl (toks e) = some e := by
  apply C04_parse
  induction e with
  | leaf _ => trivial
  | paren e ih => exact ih h
  | neg e ih => exact ih h
  | bin o l r ihl ihr =>
    obtain ⟨hl, hr, h1, h2⟩ := h
    refine ⟨ihl hl, ihr hr, ?_, ?_⟩
    · intro k hk; rw [h1] at hk; cases hk
    · intro k hk; rw [h2] at hk; cases hk

/-- value and unit of a tree whose proper sub-expressions are non-zero, in one statement: the value is
    that of ordinary arithmetic; the unit is that of the leftmost operand that has one unless the
    whole is zero (`with_units` prints a computed zero bare, a literal zero keeps its unit) -/
theorem evalE_of_subNonzero (e : E Operand) (h : SubNonzero e) :
    ∃ u, evalE e = .ok (val e) u ∧ (val e ≠ 0 → u = unitOf e) := by
  induction e with
  | leaf a => exact ⟨a.unit, rfl, fun _ => rfl⟩
  | paren e ih => exact ih h
  | neg e ih =>
    obtain ⟨u, hu, hunit⟩ := ih h
    exact ⟨u, by simp only [evalE, hu, val], fun hv => hunit fun h0 => hv (by simp [val, h0])⟩
  | bin o l r ihl ihr =>
    obtain ⟨hl, hr, hl0, hr0⟩ := h
    obtain ⟨ul, hul, hl'⟩ := ihl hl
    obtain ⟨ur, hur, hr'⟩ := ihr hr
    have h1 : ¬ (val l = 0 ∧ o = .div) := fun h => hl0 h.1
    have h2 : ¬ (val r = 0 ∧ o = .div) := fun h => hr0 h.1
    simp only [evalE, hul, hur, h1, h2, if_false, withUnits, hl' hl0, hr' hr0]
    by_cases hv : applyOp o (val l) (val r) = 0
    · exact ⟨"", by simp only [hv, if_true, val], fun hv' => absurd hv hv'⟩
    · exact ⟨unitOf (.bin o l r), by simp only [hv, if_false, val, unitOf], fun _ => rfl⟩

/-- **C04_eval**: on every tree whose proper sub-expressions are non-zero (hence all divisors are),
    the model of Expression.parse / NegatedExpression.parse returns the value of ordinary arithmetic
    and the unit of the leftmost operand that has one. -/
theorem C04_eval (e : E Operand) (h : SubNonzero e) (hv : val e ≠ 0) :
    evalE e = .ok (val e) (unitOf e) := by
  obtain ⟨u, hu, hunit⟩ := evalE_of_subNonzero e h
  rw [hu, hunit hv]

/-- when the whole expression is zero the result is a bare `0` (documented: a zero loses its unit) -/
theorem C04_eval_zero (e : E Operand) (h : SubNonzero e) (hv : val e = 0) :
    ∃ u, evalE e = .ok 0 u := by
  obtain ⟨u, hu, -⟩ := evalE_of_subNonzero e h
  exact ⟨u, hv ▸ hu⟩

/-- **C04** (text to value): for every canonical tree, parsing its text with the regenerated
    precedence and evaluating gives ordinary arithmetic. -/
theorem C04 (e : E Operand) (hc : Canon genLvl e) (h : SubNonzero e) (hv : val e ≠ 0) :
    (parse genLvl (toks e)).map evalE = some (.ok (val e) (unitOf e)) := by
  rw [C04_parse e hc, Option.map_some, C04_eval e h hv]

/-! non-vacuity and the two classic readings -/
def n (k : Int) (u : String := "") : E Operand := .leaf ⟨k, u⟩
example : parse genLvl (toks (.bin .sub (.bin .sub (n 1) (n 2)) (n 3))) = some (.bin .sub (.bin .sub (n 1) (n 2)) (n 3)) := by
  decide +kernel
example : parse genLvl [Tok.num (1 : Nat), .op .sub, .num 2, .op .mul, .num 3]
    = some (.bin .sub (.leaf 1) (.bin .mul (.leaf 2) (.leaf 3))) := by decide +kernel
example : Canon genLvl (.bin .sub (n 1 "px") (.bin .mul (n 2) (n 3))) := by
  refine ⟨trivial, ⟨trivial, trivial, ?_, ?_⟩, ?_, ?_⟩ <;> intro k hk <;> simp [rootLvl, n] at hk
  subst hk; decide +kernel
example : evalE (.bin .sub (n 1 "px") (.bin .mul (n 2) (n 3 "em"))) = .ok (-5) "px" := by decide +kernel

end Lessm.Expr
