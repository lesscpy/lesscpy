/-
  C12  Whitespace, comments and the last semicolon of a block are irrelevant: any non-empty run of
       whitespace between two tokens may be replaced by any other, comments (whatever their body)
       produce no token, at a statement boundary any gap at all is irrelevant, and the `;` the lexer
       injects before `}` is exactly the one that could have been written. Line numbers count the
       line feeds before a token, comments included.

       The theorems named `C12_*` say this; the lemmas about `filterFrom`, `lexGap`, `drops`,
       `injects`, `lastAfter` between them are what they are proved from (there is no lemma file
       for C12) and are audited with them.
-/
import Lessm.Model.Lex
import Lessm.Gen.Words

namespace Lessm.Lex

/-- the token types after which a blank must survive for CSS to keep its meaning
    (`.a .b` vs `.a.b`, `1px 2px`, `@a @b`, `& .x` vs `&.x`, `a b` ...) -/
def mustKeepWsAfter : List Ty :=
  ["css_class", "css_id", "css_dom", "css_ident", "css_number", "css_color", "css_filter",
   "less_variable", "&", "css_property"]

/-- **C12_table**: in the `significant_ws` set of the current source whitespace is never significant
    after whitespace, `{`, `}`, `;`, `,`, `:`; and it is significant after every token type after
    which CSS needs it. -/
theorem C12_table :
    (tWs ∉ Gen.significantWs ∧ tBopen ∉ Gen.significantWs ∧ tBclose ∉ Gen.significantWs
      ∧ tSemi ∉ Gen.significantWs ∧ "t_comma" ∉ Gen.significantWs ∧ "t_colon" ∉ Gen.significantWs)
    ∧ mustKeepWsAfter.all (Gen.significantWs.contains ·) = true := by decide +kernel

theorem ws_ne_bclose : tWs ≠ tBclose := by simp [tWs, tBclose]
theorem semi_ne_ws : tSemi ≠ tWs := by simp [tSemi, tWs]
theorem semi_ne_bclose : tSemi ≠ tBclose := by simp [tSemi, tBclose]
theorem bclose_ne_ws : tBclose ≠ tWs := ws_ne_bclose.symm

theorem ty_beq_false {a b : Ty} (h : a ≠ b) : (a == b) = false := beq_false_of_ne h

/-- a `t_ws` met in state `last` is dropped -/
def drops (sig : List Ty) : Option Ty → Bool
  | none => true
  | some l => !sig.contains l

/-- a `t_bclose` met in state `last` is preceded by an injected `t_semicolon` -/
def injects : Option Ty → Bool
  | none => false
  | some l => l != tBopen && l != tBclose && l != tSemi

theorem filterFrom_nil (sig : List Ty) (last : Option Ty) : filterFrom sig last [] = [] := by
  cases last <;> rfl

/-- the defining equation of `filterFrom`, with the two conditions named -/
theorem filterFrom_cons (sig : List Ty) (last : Option Ty) (t : Ty) (ts : List Ty) :
    filterFrom sig last (t :: ts) =
      if t == tWs && drops sig last then filterFrom sig last ts
      else if t == tBclose && injects last then tSemi :: tBclose :: filterFrom sig (some tSemi) ts
      else t :: filterFrom sig (some t) ts := by
  cases last <;> rfl

theorem drops_some {sig : List Ty} {l : Ty} (h : l ∉ sig) : drops sig (some l) = true := by
  simp [drops, h]

theorem filterFrom_ws_drop {sig : List Ty} {last : Option Ty} (h : drops sig last = true)
    (ts : List Ty) : filterFrom sig last (tWs :: ts) = filterFrom sig last ts := by
  simp [filterFrom_cons, h]

theorem filterFrom_ws_keep {sig : List Ty} {last : Option Ty} (h : drops sig last = false)
    (ts : List Ty) : filterFrom sig last (tWs :: ts) = tWs :: filterFrom sig (some tWs) ts := by
  simp [filterFrom_cons, h, ws_ne_bclose]

/-- the filter looks at its state only through `drops` and `injects` -/
theorem filterFrom_congr_state {sig : List Ty} {l l' : Option Ty}
    (hd : drops sig l = drops sig l') (hi : injects l = injects l') (ts : List Ty) :
    filterFrom sig l ts = filterFrom sig l' ts := by
  induction ts with
  | nil => rw [filterFrom_nil, filterFrom_nil]
  | cons t ts ih => rw [filterFrom_cons, filterFrom_cons, hd, hi, ih]

/-- the state (`last`) of the filter after it has consumed `pre` -/
def lastAfter (sig : List Ty) : Option Ty → List Ty → Option Ty
  | last, [] => last
  | last, t :: ts =>
      if t == tWs && drops sig last then lastAfter sig last ts
      else if t == tBclose && injects last then lastAfter sig (some tSemi) ts
      else lastAfter sig (some t) ts

/-- the filter is a one-state transducer: it can be run on a prefix and resumed -/
theorem filterFrom_append (sig : List Ty) (last : Option Ty) (pre ts : List Ty) :
    filterFrom sig last (pre ++ ts)
      = filterFrom sig last pre ++ filterFrom sig (lastAfter sig last pre) ts := by
  induction pre generalizing last with
  | nil => simp [filterFrom_nil, lastAfter]
  | cons t pre ih =>
    simp only [List.cons_append, filterFrom_cons, lastAfter]
    split
    · exact ih _
    · split
      · simp [ih]
      · simp [ih]

theorem filterFrom_append_congr {sig : List Ty} {r r' : List Ty}
    (h : ∀ last, filterFrom sig last r = filterFrom sig last r') (last : Option Ty) (pre : List Ty) :
    filterFrom sig last (pre ++ r) = filterFrom sig last (pre ++ r') := by
  rw [filterFrom_append, filterFrom_append, h]

/-- **C12_run**: two consecutive whitespace tokens are filtered like one. -/
theorem C12_run {sig : List Ty} (hws : tWs ∉ sig) (last : Option Ty) (ts : List Ty) :
    filterFrom sig last (tWs :: tWs :: ts) = filterFrom sig last (tWs :: ts) := by
  cases h : drops sig last with
  | true => rw [filterFrom_ws_drop h, filterFrom_ws_drop h]
  | false =>
    rw [filterFrom_ws_keep h, filterFrom_ws_keep h, filterFrom_ws_drop (drops_some hws)]

/-- **C12_run_n**: a run of `n+1` whitespace tokens is filtered like one. -/
theorem C12_run_n {sig : List Ty} (hws : tWs ∉ sig) (last : Option Ty) (n : Nat) (ts : List Ty) :
    filterFrom sig last (List.replicate (n + 1) tWs ++ ts) = filterFrom sig last (tWs :: ts) := by
  induction n with
  | zero => rfl
  | succ n ih =>
    rw [List.replicate_succ, List.cons_append, List.replicate_succ, List.cons_append, C12_run hws,
      ← List.cons_append, ← List.replicate_succ, ih]

def wsRuns : List Piece → Nat
  | [] => 0
  | .blanks _ :: r => wsRuns r + 1
  | .newlines _ :: r => wsRuns r + 1
  | _ :: r => wsRuns r

/-- a gap lexes to whitespace tokens only, one per run of blanks or of line breaks; comments give
    nothing -/
theorem lexGap_eq_replicate (g : List Piece) : lexGap g = List.replicate (wsRuns g) tWs := by
  induction g with
  | nil => rfl
  | cons p r ih => cases p <;> simp [lexGap, wsRuns, ih, List.replicate_succ]

theorem hasSpace_iff (g : List Piece) : hasSpace g = true ↔ 0 < wsRuns g := by
  induction g with
  | nil => simp [hasSpace, wsRuns]
  | cons p r ih => cases p <;> simp [hasSpace, wsRuns, ih]

theorem lexGap_nil_of_not_hasSpace {g : List Piece} (h : hasSpace g = false) : lexGap g = [] := by
  have h0 : wsRuns g = 0 := Nat.eq_zero_of_not_pos fun hp => by
    rw [(hasSpace_iff g).2 hp] at h
    cases h
  rw [lexGap_eq_replicate, h0, List.replicate_zero]

theorem filterFrom_gap_space {sig : List Ty} (hws : tWs ∉ sig) (last : Option Ty)
    {g : List Piece} (h : hasSpace g = true) (ts : List Ty) :
    filterFrom sig last (lexGap g ++ ts) = filterFrom sig last (tWs :: ts) := by
  obtain ⟨n, hn⟩ := Nat.exists_eq_add_one.2 ((hasSpace_iff g).1 h)
  rw [lexGap_eq_replicate, hn, C12_run_n hws]

theorem filterFrom_gap_nospace (sig : List Ty) (last : Option Ty)
    {g : List Piece} (h : hasSpace g = false) (ts : List Ty) :
    filterFrom sig last (lexGap g ++ ts) = filterFrom sig last ts := by
  rw [lexGap_nil_of_not_hasSpace h, List.nil_append]

/-- **C12_gap_tokens**: a gap matters only through whether it contains any blank / line-break run:
    blanks, tabs, LF, CRLF, several of them, with comments in between, comment bodies — all alike. -/
theorem C12_gap_tokens {sig : List Ty} (hws : tWs ∉ sig) (last : Option Ty) {g g' : List Piece}
    (h : hasSpace g = hasSpace g') (ts : List Ty) :
    filterFrom sig last (lexGap g ++ ts) = filterFrom sig last (lexGap g' ++ ts) := by
  cases hg : hasSpace g with
  | true =>
    rw [filterFrom_gap_space hws last hg, filterFrom_gap_space hws last (h ▸ hg)]
  | false =>
    rw [filterFrom_gap_nospace sig last hg, filterFrom_gap_nospace sig last (h ▸ hg)]

/-- comment text never reaches the token stream: bodies (and line counts) are not even looked at -/
theorem C12_comment_body (b b' : String) (k k' : Nat) (r : List Piece) :
    lexGap (.blockComment b k :: r) = lexGap r
    ∧ lexGap (.lineComment b :: r) = lexGap r
    ∧ lexGap (.blockComment b k :: r) = lexGap (.blockComment b' k' :: r)
    ∧ lexGap (.lineComment b :: r) = lexGap (.lineComment b' :: r) := ⟨rfl, rfl, rfl, rfl⟩

theorem lexGap_append (g g' : List Piece) : lexGap (g ++ g') = lexGap g ++ lexGap g' := by
  induction g with
  | nil => rfl
  | cons p r ih => cases p <;> simp [lexGap, ih]

theorem hasSpace_append (g g' : List Piece) : hasSpace (g ++ g') = (hasSpace g || hasSpace g') := by
  induction g with
  | nil => rfl
  | cons p r ih => cases p <;> simp [hasSpace, ih]

/-- **C12_comment_in_gap**: inserting a block or line comment (any body) in the middle of any gap
    leaves the filtered stream unchanged — also between two tokens that are not separated by
    whitespace: the comment does not introduce a `t_ws`, and does not hide what follows. -/
theorem C12_comment_in_gap (sig : List Ty) (last : Option Ty) (g g' : List Piece) (c : Piece)
    (hc : (∃ b k, c = .blockComment b k) ∨ (∃ b, c = .lineComment b)) (ts : List Ty) :
    filterFrom sig last (lexGap (g ++ c :: g') ++ ts) = filterFrom sig last (lexGap (g ++ g') ++ ts) := by
  have : lexGap (g ++ c :: g') = lexGap (g ++ g') := by
    rw [lexGap_append, lexGap_append]
    rcases hc with ⟨b, k, rfl⟩ | ⟨b, rfl⟩ <;> rfl
  rw [this]

theorem filterFrom_gap_drop {sig : List Ty} {last : Option Ty} (h : drops sig last = true)
    (g : List Piece) (ts : List Ty) :
    filterFrom sig last (lexGap g ++ ts) = filterFrom sig last ts := by
  induction g with
  | nil => rfl
  | cons p r ih => cases p <;> simp [lexGap, filterFrom_ws_drop h, ih]

/-- **C12_boundary**: after a token whose type is not in `significant_ws` (by `C12_table`: after
    `;`, `{`, `}`, `,`, `:`) ANY gap is irrelevant -/
theorem C12_boundary {sig : List Ty} {l : Ty} (hl : l ∉ sig) (g : List Piece) (ts : List Ty) :
    filterFrom sig (some l) (lexGap g ++ ts) = filterFrom sig (some l) ts :=
  filterFrom_gap_drop (drops_some hl) g ts

/-- **C12_boundary_start**: before the first token any gap is irrelevant (no hypothesis at all) -/
theorem C12_boundary_start (sig : List Ty) (g : List Piece) (ts : List Ty) :
    filterFrom sig none (lexGap g ++ ts) = filterFrom sig none ts :=
  filterFrom_gap_drop rfl g ts

/-- after a non-whitespace token `b` with `b ∉ sig` the gap is dropped, in whatever state `b` is met
    (also when `b` is a `}` before which a `;` is injected) -/
theorem filterFrom_tok_gap {sig : List Ty} (hsemi : tSemi ∉ sig) {b : Ty} (hb : b ∉ sig)
    (hbw : b ≠ tWs) (last : Option Ty) (g : List Piece) (ts : List Ty) :
    filterFrom sig last (b :: (lexGap g ++ ts)) = filterFrom sig last (b :: ts) := by
  simp only [filterFrom_cons, ty_beq_false hbw, Bool.false_and, if_false, Bool.false_eq_true]
  rw [C12_boundary hsemi, C12_boundary hb]

/-- **C12_comment_at_boundary**, the property's words: in any token stream, inserting after a `;`,
    `{` or `}` (any token type `b ∉ sig`) a gap made of comments — with or without whitespace around
    or between them, whatever the comment bodies — leaves the filtered stream unchanged; everything
    after the comment is still there. -/
theorem C12_comment_at_boundary {sig : List Ty} (hsemi : tSemi ∉ sig) {b : Ty} (hb : b ∉ sig)
    (hbw : b ≠ tWs) (pre : List Ty) (g : List Piece) (ts : List Ty) :
    filter sig (pre ++ b :: (lexGap g ++ ts)) = filter sig (pre ++ b :: ts) :=
  filterFrom_append_congr (fun last => filterFrom_tok_gap hsemi hb hbw last g ts) none pre

/-- two lexeme sequences with the same token types, whose gaps agree on having a space or not -/
def SameUpToGaps : List Lexeme → List Lexeme → Prop
  | [], [] => True
  | x :: xs, y :: ys => x.ty = y.ty ∧ hasSpace x.gap = hasSpace y.gap ∧ SameUpToGaps xs ys
  | _, _ => False

theorem filterFrom_lexemes {sig : List Ty} (hws : tWs ∉ sig) :
    ∀ (xs ys : List Lexeme), SameUpToGaps xs ys → ∀ last,
      filterFrom sig last (xs.flatMap (fun p => p.ty :: lexGap p.gap))
        = filterFrom sig last (ys.flatMap (fun p => p.ty :: lexGap p.gap)) := by
  intro xs ys h
  fun_induction SameUpToGaps xs ys with
  | case1 => exact fun _ => rfl
  | case2 x xs y ys ih =>
    obtain ⟨hty, hgap, hrest⟩ := h
    intro last
    simp only [List.flatMap_cons, hty]
    refine filterFrom_append_congr (r := lexGap x.gap ++ _) (r' := lexGap y.gap ++ _)
      (fun last' => ?_) last [y.ty]
    rw [C12_gap_tokens hws last' hgap]
    exact filterFrom_append_congr (ih hrest) last' _
  | case3 => exact h.elim

/-- **C12_gap_program**: two programs with the same lexemes, whose gaps pointwise agree on whether
    they contain any whitespace (leading gaps arbitrary), have the same filtered token stream —
    the stream the parser sees, hence the same CSS. -/
theorem C12_gap_program {sig : List Ty} (hws : tWs ∉ sig) (lead lead' : List Piece)
    (xs xs' : List Lexeme) (h : SameUpToGaps xs xs') :
    filter sig (lexProgram lead xs) = filter sig (lexProgram lead' xs') := by
  unfold filter lexProgram
  rw [C12_boundary_start, C12_boundary_start]
  exact filterFrom_lexemes hws xs xs' h none

theorem filterFrom_semi_eq_bclose {sig : List Ty} (hsemi : tSemi ∉ sig) (hbc : tBclose ∉ sig)
    (ts : List Ty) : filterFrom sig (some tSemi) ts = filterFrom sig (some tBclose) ts :=
  filterFrom_congr_state (by rw [drops_some hsemi, drops_some hbc])
    (by simp [injects]) ts

/-- **C12_semi**: before a `}` that follows a token other than `{`, `}`, `;` (whitespace included:
    `last` may be `t_ws`) the filter yields exactly what it yields when the `;` is written. -/
theorem C12_semi {sig : List Ty} (hsemi : tSemi ∉ sig) (hbc : tBclose ∉ sig) {l : Ty}
    (h1 : l ≠ tBopen) (h2 : l ≠ tBclose) (h3 : l ≠ tSemi) (ts : List Ty) :
    filterFrom sig (some l) (tBclose :: ts) = filterFrom sig (some l) (tSemi :: tBclose :: ts) := by
  simp [filterFrom_cons, injects, h1, h2, h3, semi_ne_ws, semi_ne_bclose, bclose_ne_ws,
    filterFrom_semi_eq_bclose hsemi hbc]

/-- the side conditions of `C12_semi` are necessary: after `{`, `}` or `;` the `}` is handed out without a
    `;`, whereas the stream with the `;` written keeps it (`C12_semi_idem`) -/
theorem C12_semi_not_after {sig : List Ty} {l : Ty} (h : l = tBopen ∨ l = tBclose ∨ l = tSemi)
    (ts : List Ty) :
    filterFrom sig (some l) (tBclose :: ts) = tBclose :: filterFrom sig (some tBclose) ts := by
  rcases h with rfl | rfl | rfl <;>
    simp [filterFrom_cons, injects, bclose_ne_ws]

/-- **C12_semi_idem**: when the `;` is written (with any gap before the `}`), no second one is
    injected, in whatever state the `;` is met. -/
theorem C12_semi_idem {sig : List Ty} (hsemi : tSemi ∉ sig) (last : Option Ty) (g : List Piece)
    (ts : List Ty) :
    filterFrom sig last (tSemi :: (lexGap g ++ tBclose :: ts))
      = tSemi :: tBclose :: filterFrom sig (some tBclose) ts := by
  rw [filterFrom_tok_gap hsemi hsemi semi_ne_ws]
  simp [filterFrom_cons, injects, semi_ne_ws, semi_ne_bclose, bclose_ne_ws]

theorem lastAfter_gap (sig : List Ty) (last : Option Ty) (g : List Piece) :
    lastAfter sig last (lexGap g) = last ∨ lastAfter sig last (lexGap g) = some tWs := by
  rw [lexGap_eq_replicate]
  induction wsRuns g generalizing last with
  | zero => exact Or.inl rfl
  | succ n ih =>
    simp only [List.replicate_succ, lastAfter, beq_self_eq_true, Bool.true_and,
      ty_beq_false ws_ne_bclose, Bool.false_and, Bool.false_eq_true, if_false]
    split
    · exact ih last
    · exact Or.inr ((ih (some tWs)).elim id id)

/-- the state after a token `d` that is none of whitespace, `{`, `}`, `;`, followed by any gap, is
    one in which a `;` is injected before `}` -/
theorem injects_after_decl_tok (sig : List Ty) {d : Ty} (h0 : d ≠ tWs) (h1 : d ≠ tBopen)
    (h2 : d ≠ tBclose) (h3 : d ≠ tSemi) (last : Option Ty) (g : List Piece) :
    ∃ l, lastAfter sig last (d :: lexGap g) = some l ∧ l ≠ tBopen ∧ l ≠ tBclose ∧ l ≠ tSemi := by
  have hstep : lastAfter sig last (d :: lexGap g) = lastAfter sig (some d) (lexGap g) := by
    simp [lastAfter, h0, h2]
  rw [hstep]
  rcases lastAfter_gap sig (some d) g with h | h
  · exact ⟨d, h, h1, h2, h3⟩
  · exact ⟨tWs, h, by simp [tWs, tBopen], ws_ne_bclose, semi_ne_ws.symm⟩

/-- **C12_semi_block**, the property's words: in any token stream, a block whose last declaration
    ends in a token `d` (not whitespace, `{`, `}`, `;`), followed by any gap `g` and the `}`, is
    filtered exactly like the same stream with `;` written after the gap (and any further gap `g'`
    between `;` and `}`). -/
theorem C12_semi_block {sig : List Ty} (hsemi : tSemi ∉ sig) (hbc : tBclose ∉ sig) {d : Ty}
    (h0 : d ≠ tWs) (h1 : d ≠ tBopen) (h2 : d ≠ tBclose) (h3 : d ≠ tSemi)
    (pre : List Ty) (g g' : List Piece) (ts : List Ty) :
    filter sig (pre ++ d :: (lexGap g ++ tBclose :: ts))
      = filter sig (pre ++ d :: (lexGap g ++ tSemi :: (lexGap g' ++ tBclose :: ts))) := by
  apply filterFrom_append_congr
  intro last
  rw [← List.cons_append, ← List.cons_append, filterFrom_append, filterFrom_append]
  congr 1
  obtain ⟨l, hl, l1, l2, l3⟩ := injects_after_decl_tok sig h0 h1 h2 h3 last g
  rw [hl, filterFrom_tok_gap hsemi hsemi semi_ne_ws]
  exact C12_semi hsemi hbc l1 l2 l3 ts

theorem filterFrom_idem {sig : List Ty} (hsemi : tSemi ∉ sig) (hbc : tBclose ∉ sig)
    (last : Option Ty) (ts : List Ty) :
    filterFrom sig last (filterFrom sig last ts) = filterFrom sig last ts := by
  induction ts generalizing last with
  | nil => simp [filterFrom_nil]
  | cons t ts ih =>
    rw [filterFrom_cons]
    split
    · exact ih last
    · rename_i hdrop
      split
      · have := C12_semi_idem hsemi last [] (filterFrom sig (some tSemi) ts)
        simp only [lexGap, List.nil_append] at this
        rw [this, ← filterFrom_semi_eq_bclose hsemi hbc, ih]
      · rename_i hinj
        rw [filterFrom_cons, if_neg hdrop, if_neg hinj, ih]

/-- **C12_filter_idem**: filtering a filtered stream changes nothing (`tWs ∉ sig` is not needed). -/
theorem C12_filter_idem {sig : List Ty} (hsemi : tSemi ∉ sig) (hbc : tBclose ∉ sig) (ts : List Ty) :
    filter sig (filter sig ts) = filter sig ts :=
  filterFrom_idem hsemi hbc none ts

theorem gapLines_append (g g' : List Piece) : gapLines (g ++ g') = gapLines g + gapLines g' := by
  induction g with
  | nil => exact (Nat.zero_add _).symm
  | cons p r ih => cases p <;> simp only [List.cons_append, gapLines, ih, Nat.add_assoc]

/-- line feeds per piece: blanks and `//` comments none (the line end after a `//` comment is a
    `newlines` piece of its own), `n+1` line breaks `n+1`, a block comment exactly those it contains -/
theorem gapLines_piece (n k : Nat) (b : String) (r : List Piece) :
    gapLines (.blanks n :: r) = gapLines r
    ∧ gapLines (.lineComment b :: r) = gapLines r
    ∧ gapLines (.newlines n :: r) = (n + 1) + gapLines r
    ∧ gapLines (.blockComment b k :: r) = k + gapLines r := ⟨rfl, rfl, rfl, rfl⟩

theorem C12_lines_zero (lead : List Piece) (xs : List Lexeme) : lineOf lead xs 0 = 1 + gapLines lead := by
  simp [lineOf]

theorem C12_lines_succ (lead : List Piece) (xs : List Lexeme) (i : Nat) (h : i < xs.length) :
    lineOf lead xs (i + 1) = lineOf lead xs i + (xs[i]).innerLines + gapLines (xs[i]).gap := by
  simp only [lineOf, List.take_succ_eq_append_getElem h, List.map_append, List.sum_append,
    List.map_cons, List.map_nil, List.sum_cons, List.sum_nil]
  omega

/-- **C12_lines**: a token's line is 1 + the line feeds before it, those inside comments and inside
    earlier tokens included -/
theorem C12_lines (lead : List Piece) (xs : List Lexeme) :
    lineOf lead xs 0 = 1 + gapLines lead
    ∧ ∀ i (h : i < xs.length),
        lineOf lead xs (i + 1) = lineOf lead xs i + (xs[i]).innerLines + gapLines (xs[i]).gap :=
  ⟨C12_lines_zero lead xs, C12_lines_succ lead xs⟩

theorem C12_lines_mono (lead : List Piece) (xs : List Lexeme) (i : Nat) (h : i < xs.length) :
    lineOf lead xs i ≤ lineOf lead xs (i + 1) := by
  rw [C12_lines_succ lead xs i h]; omega

/-- whitespace and comments in the leading gap: the first token is on line 1 + line feeds before it;
    a block comment with `k` line feeds put in front shifts every line number by `k`, a `//` comment
    or blanks by nothing -/
theorem C12_lines_lead_shift (c : Piece) (lead : List Piece) (xs : List Lexeme) (i : Nat) :
    lineOf (c :: lead) xs i = lineOf lead xs i + gapLines [c] := by
  rw [lineOf, lineOf, show c :: lead = [c] ++ lead from rfl, gapLines_append]
  omega

theorem gen_ws : tWs ∉ Gen.significantWs := C12_table.1.1
theorem gen_bopen : tBopen ∉ Gen.significantWs := C12_table.1.2.1
theorem gen_bclose : tBclose ∉ Gen.significantWs := C12_table.1.2.2.1
theorem gen_semi : tSemi ∉ Gen.significantWs := C12_table.1.2.2.2.1
theorem gen_comma : "t_comma" ∉ Gen.significantWs := C12_table.1.2.2.2.2.1
theorem gen_colon : "t_colon" ∉ Gen.significantWs := C12_table.1.2.2.2.2.2

/-- the tokens that end a statement or open / separate one: after them any gap is irrelevant -/
def boundaryToks : List Ty := [tSemi, tBopen, tBclose, "t_comma", "t_colon"]

theorem boundary_not_sig : ∀ b ∈ boundaryToks, b ∉ Gen.significantWs ∧ b ≠ tWs := by
  intro b hb
  simp only [boundaryToks, List.mem_cons, List.mem_nil_iff, or_false] at hb
  rcases hb with rfl | rfl | rfl | rfl | rfl
  · exact ⟨gen_semi, semi_ne_ws⟩
  · exact ⟨gen_bopen, by simp [tBopen, tWs]⟩
  · exact ⟨gen_bclose, bclose_ne_ws⟩
  · exact ⟨gen_comma, by simp [tWs]⟩
  · exact ⟨gen_colon, by simp [tWs]⟩

/-- **C12_gen_gap**: with the compiler's own table, whitespace between tokens may be replaced by
    any other non-empty whitespace, comments included -/
theorem C12_gen_gap (last : Option Ty) {g g' : List Piece} (h : hasSpace g = hasSpace g')
    (ts : List Ty) :
    filterFrom Gen.significantWs last (lexGap g ++ ts)
      = filterFrom Gen.significantWs last (lexGap g' ++ ts) :=
  C12_gap_tokens gen_ws last h ts

theorem C12_gen_program (lead lead' : List Piece) (xs xs' : List Lexeme)
    (h : SameUpToGaps xs xs') :
    filter Gen.significantWs (lexProgram lead xs) = filter Gen.significantWs (lexProgram lead' xs') :=
  C12_gap_program gen_ws lead lead' xs xs' h

/-- **C12_gen_boundary**: with the compiler's own table, after `;`, `{`, `}`, `,`, `:` any gap —
    whitespace, comments with any body, or nothing — is irrelevant, in any token stream -/
theorem C12_gen_boundary {b : Ty} (hb : b ∈ boundaryToks) (pre : List Ty) (g : List Piece)
    (ts : List Ty) :
    filter Gen.significantWs (pre ++ b :: (lexGap g ++ ts))
      = filter Gen.significantWs (pre ++ b :: ts) :=
  C12_comment_at_boundary gen_semi (boundary_not_sig b hb).1 (boundary_not_sig b hb).2 pre g ts

theorem C12_gen_start (g : List Piece) (ts : List Ty) :
    filter Gen.significantWs (lexGap g ++ ts) = filter Gen.significantWs ts :=
  C12_boundary_start _ g ts

/-- **C12_gen_semi**: with the compiler's own table, the last `;` of a block is optional -/
theorem C12_gen_semi {d : Ty} (h0 : d ≠ tWs) (h1 : d ≠ tBopen) (h2 : d ≠ tBclose) (h3 : d ≠ tSemi)
    (pre : List Ty) (g g' : List Piece) (ts : List Ty) :
    filter Gen.significantWs (pre ++ d :: (lexGap g ++ tBclose :: ts))
      = filter Gen.significantWs
          (pre ++ d :: (lexGap g ++ tSemi :: (lexGap g' ++ tBclose :: ts))) :=
  C12_semi_block gen_semi gen_bclose h0 h1 h2 h3 pre g g' ts

theorem C12_gen_filter_idem (ts : List Ty) :
    filter Gen.significantWs (filter Gen.significantWs ts) = filter Gen.significantWs ts :=
  C12_filter_idem gen_semi gen_bclose ts

/-! non-vacuity on concrete streams, with the table as generated -/

/-- `.a{color:red}` written tightly -/
def tight : List Lexeme :=
  [⟨"css_class", 0, []⟩, ⟨tBopen, 0, []⟩, ⟨"css_property", 0, []⟩, ⟨"t_colon", 0, []⟩,
   ⟨"css_ident", 0, []⟩, ⟨tBclose, 0, []⟩]

/-- the same with blanks and line breaks, a `//` comment after `{` (holding a `}`), a block comment
    after the value and the `;` written; the example below puts a two-line block comment in front -/
def loose : List Lexeme :=
  [⟨"css_class", 0, []⟩,
   ⟨tBopen, 0, [.blanks 0, .lineComment "} .b { x: y", .newlines 0, .blanks 3]⟩,
   ⟨"css_property", 0, []⟩, ⟨"t_colon", 0, [.blanks 1]⟩,
   ⟨"css_ident", 0, []⟩,
   ⟨tSemi, 0, [.blanks 0, .blockComment " ; color: blue; " 0, .newlines 1]⟩,
   ⟨tBclose, 0, [.newlines 0]⟩]

example : filter Gen.significantWs (lexProgram [] tight)
    = ["css_class", tBopen, "css_property", "t_colon", "css_ident", tSemi, tBclose] := by decide +kernel

example : filter Gen.significantWs (lexProgram [.blockComment "a\n b" 1, .newlines 0] loose)
    = filter Gen.significantWs (lexProgram [] tight) := by decide +kernel

/-- a blank between two selectors parts is kept (descendant combinator), and any other whitespace
    run or whitespace-with-comment gives the same stream; no whitespace gives another one -/
example : filter Gen.significantWs (lexProgram [] [⟨"css_class", 0, [.blanks 0]⟩, ⟨"css_class", 0, []⟩])
    = ["css_class", tWs, "css_class"] := by decide +kernel
example : filter Gen.significantWs (lexProgram [] [⟨"css_class", 0,
      [.newlines 2, .blockComment "x" 4, .blanks 7, .lineComment "y", .newlines 0]⟩, ⟨"css_class", 0, []⟩])
    = ["css_class", tWs, "css_class"] := by decide +kernel
example : filter Gen.significantWs (lexProgram [] [⟨"css_class", 0, [.blockComment "x" 0]⟩, ⟨"css_class", 0, []⟩])
    = ["css_class", "css_class"] := by decide +kernel

/-- the injected `;` when whitespace precedes the `}` (`last` is `t_ws`) -/
example : filter Gen.significantWs ["css_ident", tWs, tBclose] = ["css_ident", tWs, tSemi, tBclose] := by
  decide +kernel
example : filter Gen.significantWs ["css_ident", tWs, tSemi, tWs, tBclose]
    = ["css_ident", tWs, tSemi, tBclose] := by decide +kernel
/-- no `;` is injected into an empty block or after a nested block -/
example : filter Gen.significantWs ["css_class", tBopen, tWs, tBclose, tWs, tBclose]
    = ["css_class", tBopen, tBclose, tBclose] := by decide +kernel

/-- line numbers: the class is on line 3 (two line feeds in front), the property on line 4,
    the `}` on line 6 -/
example : lineOf [.blockComment "a\n b" 1, .newlines 0] loose 0 = 3 := by decide +kernel
example : lineOf [.blockComment "a\n b" 1, .newlines 0] loose 2 = 4 := by decide +kernel
example : lineOf [.blockComment "a\n b" 1, .newlines 0] loose 6 = 6 := by decide +kernel

/-- the hypothesis `tSemi ∉ sig` of `C12_filter_idem` is needed: were `;` significant but `}` not, a filtered
    stream would filter further -/
example : filter [tSemi] (filter [tSemi] ["x", tBclose, tWs]) ≠ filter [tSemi] ["x", tBclose, tWs] := by
  decide +kernel

end Lessm.Lex
