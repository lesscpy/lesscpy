/-
  C01  Plain CSS passes through with its meaning unchanged.

  The plain-CSS statement is assembled from the models of the other properties:
    * selectors       — Lessm.Sel.identParse on a top-level rule (no parent, no `&`) only re-encodes the
                        combinators and drops separator spaces next to them (this file);
    * rules           — Lessm.Nest.compileSheet on rules that contain only declarations is the identity
                        on (selector list, declarations): nothing dropped, duplicated, merged, reordered (this file);
    * whitespace      — the token types after which a descendant / value-separating space must survive are in
                        the regenerated significant-whitespace set (Props/C12: C12_table, C12_gap_tokens);
    * colour literals — Props/C08: C08_fmt, C08_idem;
    * printing        — tokens are emitted verbatim under every option vector (Props/C11: C11_erase, C11_layout); the selector
                        printer `Identifier.fmt` at character level decodes only the combinator marks and keeps quoted pieces
                        as written (Props/C01Fmt: C01_fmt_decode, C01_fmt_quoted).
-/
import Lessm.Model.Nest
import Lessm.Props.C02
namespace Lessm.Nest
open Lessm.Sel

/-- an item of a sheet of plain rules: a rule whose body holds declarations only -/
def PlainRule : Item → Bool
  | .rule _ body => body.all (fun i => match i with | .decl _ => true | _ => false)
  | .decl _ => false

def declsOfBody : List Item → List Decl
  | [] => []
  | .decl d :: r => d :: declsOfBody r
  | _ :: r => declsOfBody r

theorem srcDecls_eq (body : List Item) : srcDecls body = declsOfBody body := by
  induction body with
  | nil => rfl
  | cons i r ih => cases i <;> simp [srcDecls, declsOfBody, ih]

theorem flatList_plain_body (p : Option (List Sel)) (body : List Item)
    (h : body.all (fun i => match i with | .decl _ => true | _ => false) = true) :
    flatList p body = [] := by
  induction body with
  | nil => rfl
  | cons i r ih =>
    cases i with
    | decl d =>
      simp only [List.all_cons, Bool.and_eq_true] at h
      simp [flatList, flat, ih h.2]
    | rule s b => simp at h

/-- **C01_rules**: a sheet of plain rules compiles to exactly those rules: one output rule per source
    rule that has declarations, in source order, each with its own selector list (re-encoded by
    `identParse none`) and exactly its declarations in order. -/
theorem C01_rules (sheet : List Item) (h : sheet.all PlainRule = true) :
    compileSheet sheet =
      sheet.flatMap (fun i => match i with
        | .rule sel body => if declsOfBody body = [] then [] else [⟨identParse none sel, declsOfBody body⟩]
        | .decl _ => []) := by
  rw [C02_sheet]
  induction sheet with
  | nil => rfl
  | cons i r ih =>
    simp only [List.all_cons, Bool.and_eq_true] at h
    cases i with
    | decl d => simp [PlainRule] at h
    | rule sel body =>
      simp only [flatList, flat, List.flatMap_cons, srcDecls_eq, flatList_plain_body _ body h.1, List.append_nil]
      rw [ih h.2]

/-- with no enclosing rule a selector is not combined with anything -/
theorem C01_no_parent (toks : List Tok) : identParse none toks = (encode toks).map pairwiseFilter := rfl

theorem encodeLoop_plain (toks cur : List Tok) (done : List Sel)
    (h : ∀ t ∈ toks, t ≠ "*" ∧ isComb t = false ∧ t ≠ ",") :
    encodeLoop toks cur done = (done.reverse ++ [cur.reverse ++ toks]) := by
  induction toks generalizing cur with
  | nil => simp [encodeLoop]
  | cons t ts ih =>
    obtain ⟨⟨h1, h2, h3⟩, hts⟩ := List.forall_mem_cons.mp h
    simp [encodeLoop, h1, h2, h3, ih _ hts]

/-- **C01_simple_selector**: one selector (no comma) made of simple tokens and descendant spaces only is kept token
    by token. -/
theorem C01_simple_selector (toks : List Tok) (h : ∀ t ∈ toks, t ≠ "*" ∧ isComb t = false ∧ t ≠ ",") :
    encode toks = [toks] := by
  unfold encode
  rw [encodeLoop_plain toks [] [] h]
  simp

example : compileSheet [.rule [".a", " ", ".b", ",", "p"] [.decl ⟨"color", "red"⟩, .decl ⟨"top", "0"⟩], .rule ["div"] []]
    = [⟨[[".a", " ", ".b"], ["p"]], [⟨"color", "red"⟩, ⟨"top", "0"⟩]⟩] := by decide +kernel

end Lessm.Nest
