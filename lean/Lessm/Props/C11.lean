/-
  C11  Output options change whitespace only.

  "For one source, the outputs under every combination of minify, xminify, tabs and spaces are
   identical once insignificant whitespace is removed. Default output puts each selector and each
   declaration on its own line with declarations indented by exactly the configured unit per nesting
   level (n spaces or one tab); minified output has no newline inside a rule and no optional space
   around { } : ; , > + ~; xminify additionally has no newline between rules."

  Model: `Lessm/Model/Print.lean` (code-shaped: `Formatter.format`, `Block.fmt` with the string-level
  re-indentation `_indent` / `rstrip` / `strip`, `Property.fmt`, `Identifier.fmt`).
  Description: `Lessm/Spec/PrintSpec.lean`: printing factors through a LAYOUT — tokens emitted verbatim
  under every option vector and optional-whitespace items, the only thing the options control.
  Only theorems and examples (with their sheets `exSheet`, `exSmall`) here; helper lemmas are in
  `Lessm/Lemmas/PrintLemmas.lean`.
-/
import Lessm.Lemmas.PrintLemmas
namespace Lessm.Print

/-! ### (A) an optional item is whitespace, whatever the options -/

/-- **C11_ws_only**: under every option vector every optional item is rendered as a (possibly empty)
    string of whitespace characters. -/
theorem C11_ws_only (o : Opts) (k : OptK) : ((realiseOpt (fills o) k).toList).all isWs = true :=
  wsOnly_realiseOpt_fills o k

/-! ### (B) two renderings of one layout differ in whitespace-only gaps

  The token sequence `toks l` of a layout does not mention the options at all: it is the same for
  every option vector by construction. -/

/-- **C11_erase**: every rendering of a layout is its token sequence, in order, separated and
    surrounded by whitespace-only (possibly empty) strings. -/
theorem C11_erase (o : Opts) (l : List Lay) : Interleaves (toks l) (realise (fills o) l) :=
  interleaves_realise (fills o) (wsOnly_realiseOpt_fills o) l

/-- **C11_erase_gaps**: the same with the gaps made explicit: the rendering is `g₀ t₀ g₁ … tₙ₋₁ gₙ`
    where `[t₀ … tₙ₋₁] = toks l` does not depend on `o` and the `n + 1` gaps `gaps (fills o) l` are
    whitespace-only. -/
theorem C11_erase_gaps (o : Opts) (l : List Lay) :
    realise (fills o) l = weave (gaps (fills o) l) (toks l) ∧
    (gaps (fills o) l).length = (toks l).length + 1 ∧
    ∀ g ∈ gaps (fills o) l, wsOnly g = true :=
  gaps_spec _ (wsOnly_realiseOpt_fills o) l

/-- **C11_erase_pair**: two option vectors render one layout as the same tokens in the same order;
    the two texts differ only in their whitespace-only gaps. -/
theorem C11_erase_pair (o₁ o₂ : Opts) (l : List Lay) :
    ∃ gs₁ gs₂ : List String,
      realise (fills o₁) l = weave gs₁ (toks l) ∧ realise (fills o₂) l = weave gs₂ (toks l) ∧
      gs₁.length = (toks l).length + 1 ∧ gs₂.length = (toks l).length + 1 ∧
      (∀ g ∈ gs₁, wsOnly g = true) ∧ (∀ g ∈ gs₂, wsOnly g = true) :=
  have ⟨e₁, n₁, w₁⟩ := C11_erase_gaps o₁ l
  have ⟨e₂, n₂, w₂⟩ := C11_erase_gaps o₂ l
  ⟨_, _, e₁, e₂, n₁, n₂, w₁, w₂⟩

/-- **C11_erase_text**: `eraseWs l` — the token text with every optional item erased — is the
    rendering with all gaps empty … -/
theorem C11_erase_text (l : List Lay) :
    eraseWs l = weave (List.replicate ((toks l).length + 1) "") (toks l) :=
  (weave_empty (toks l)).symm

/-- … and it is what `--xminify` prints. -/
theorem C11_erase_xminify (o : Opts) (h : o.xminify = true) (l : List Lay) :
    realise (fills o) l = eraseWs l := by
  rw [fills_min o (Or.inr h), h]
  exact realise_MF_empty l

/-- **C11_erase_filter**: deleting every whitespace character from two renderings of one layout
    gives the same text (that of `eraseWs l`). -/
theorem C11_erase_filter (o₁ o₂ : Opts) (l : List Lay) :
    (realise (fills o₁) l).toList.filter notWs = (realise (fills o₂) l).toList.filter notWs := by
  rw [filter_realise _ (wsOnly_realiseOpt_fills o₁), filter_realise _ (wsOnly_realiseOpt_fills o₂)]

/-! ### (C) minified output -/

/-- **C11_min**: with `minify` or `xminify` every optional item is empty — no space around
    `{ } : ; ,` and the combinators, no line break and no indentation inside a rule — except the
    end-of-block items `eb`, `ebInner`, which are one line break, and empty with `xminify`. -/
theorem C11_min (o : Opts) (h : o.minify = true ∨ o.xminify = true) :
    realiseOpt (fills o) .nl = "" ∧ realiseOpt (fills o) .ws = "" ∧
    realiseOpt (fills o) .commaWs = "" ∧ (∀ n, realiseOpt (fills o) (.indent n) = "") ∧
    (∀ n, realiseOpt (fills o) (.selSep n) = "") ∧ realiseOpt (fills o) .ebLast = "" ∧
    realiseOpt (fills o) .eb = (if o.xminify then "" else "\n") ∧
    realiseOpt (fills o) .ebInner = (if o.xminify then "" else "\n") := by
  rw [fills_min o h]
  exact roM _

/-- **C11_min_others**: the same, said once: every item other than `eb`, `ebInner` is empty. -/
theorem C11_min_others (o : Opts) (h : o.minify = true ∨ o.xminify = true) (k : OptK)
    (h1 : k ≠ .eb) (h2 : k ≠ .ebInner) : realiseOpt (fills o) k = "" := by
  rw [fills_min o h]
  cases k with
  | eb => exact absurd rfl h1
  | ebInner => exact absurd rfl h2
  | _ => simp only [roM]

/-- **C11_xmin**: with `xminify` every optional item is empty: no line break at all. -/
theorem C11_xmin (o : Opts) (h : o.xminify = true) (k : OptK) : realiseOpt (fills o) k = "" := by
  rw [fills_min o (Or.inr h), h]
  exact realiseOpt_MF_empty k

/-- **C11_min_rule**: a minified rule is its bare token text followed by its end-of-block item:
    nothing optional — in particular no line break — inside the rule. -/
theorem C11_min_rule (o : Opts) (h : o.minify = true ∨ o.xminify = true) (d : Nat) (pos : Pos)
    (sels : List (List SelPiece)) (decls : List Decl) (hne : decls.isEmpty = false) :
    realise (fills o) (layNode d pos (.rule sels decls)) =
      eraseWs (layNode d pos (.rule sels decls)) ++ realiseOpt (fills o) (closeOpt pos) := by
  have e : layNode d pos (.rule sels decls) = layFront d (.rule sels decls) ++ [.opt (closeOpt pos)] := by
    rw [layNode_eq, prints, hne]; rfl
  rw [fills_min o h, e, realise_append, frontM_rule_erase]
  simp [eraseWs, toks_append, toks]

/-! ### (D) default output -/

/-- **C11_default**: without `minify`/`xminify`, with `unit` = one tab or `spaces` spaces: a line
    break after `{` and after each declaration, one space before `{`, after `:`, around combinators
    and after a value comma, a line at nesting level `n` indented by exactly `n` units, selectors of
    a list separated by a line break and that indentation, a line break after each block. -/
theorem C11_default (o : Opts) (h1 : o.minify = false) (h2 : o.xminify = false) :
    realiseOpt (fills o) .nl = "\n" ∧ realiseOpt (fills o) .ws = " " ∧
    realiseOpt (fills o) .commaWs = " " ∧ (∀ n, realiseOpt (fills o) (.indent n) = rep n (unitOf o)) ∧
    (∀ n, realiseOpt (fills o) (.selSep n) = "\n" ++ rep n (unitOf o)) ∧
    realiseOpt (fills o) .eb = "\n" ∧ realiseOpt (fills o) .ebInner = "\n" ∧
    realiseOpt (fills o) .ebLast = "\n" := by
  rw [fills_default o h1 h2]
  exact roD _ nl_nonempty

/-- the unit is one tab, or `spaces` spaces -/
theorem C11_unit (o : Opts) :
    unitOf o = if o.tabs then "\t" else String.ofList (List.replicate o.spaces ' ') := rfl

/-- **C11_default_decl**: a declaration at level `d` starts with the indentation item of level `d`
    and ends with `;` and a line break item. -/
theorem C11_default_decl (d : Nat) (x : Decl) :
    ∃ mid, layDecl d x = .opt (.indent d) :: mid ++ [.tok ";", .opt .nl] :=
  ⟨[.tok x.prop, .tok ":", .opt .ws] ++ layValue x.value ++
    (if x.important then [.tok " !important"] else []), by simp [layDecl]⟩

/-- **C11_default_decl_line**: so in default mode a declaration at level `d` is one line:
    exactly `d` units, `prop: value;`, line break. -/
theorem C11_default_decl_line (o : Opts) (h1 : o.minify = false) (h2 : o.xminify = false) (d : Nat)
    (x : Decl) :
    realise (fills o) (layDecl d x) =
      rep d (unitOf o) ++ (x.prop ++ (":" ++ (" " ++ (realise (fills o) (layValue x.value) ++
        ((if x.important then " !important" else "") ++ (";" ++ "\n")))))) := by
  rw [fills_default o h1 h2]
  unfold layDecl
  cases x.important <;>
    simp only [realise_append, realise_opt, realise_tok, realise_nil, roD _ nl_nonempty, String.append_assoc,
      String.append_empty, String.empty_append, if_true, if_false, Bool.false_eq_true]

/-- **C11_default_rule**: the declarations of a rule at level `d` are laid out at level `d + 1`;
    the selector line and the closing `}` are at level `d`. -/
theorem C11_default_rule (d : Nat) (pos : Pos) (sels : List (List SelPiece)) (decls : List Decl)
    (h : decls.isEmpty = false) :
    layNode d pos (.rule sels decls) =
      [.opt (.indent d)] ++ laySels d sels ++ [.opt .ws, .tok "{", .opt .nl] ++ layDecls (d + 1) decls ++
        [.opt (.indent d), .tok "}", .opt (closeOpt pos)] := by
  simp [layNode, h]

/-- **C11_default_sels**: two selectors of a list are separated by `,` and the item "line break +
    indentation of the rule's level". -/
theorem C11_default_sels (d : Nat) (s₁ s₂ : List SelPiece) (r : List (List SelPiece)) :
    laySels d (s₁ :: s₂ :: r) = laySel s₁ ++ [.tok ",", .opt (.selSep d)] ++ laySels d (s₂ :: r) := rfl

/-- **C11_default_nest**: the blocks inside an at-rule block at level `d` are laid out at level
    `d + 1`. -/
theorem C11_default_nest (d : Nat) (pos : Pos) (p : String) (inner : List Node)
    (h : inner.isEmpty = false) :
    layNode d pos (.nest p inner) =
      [.opt (.indent d), .tok p, .opt .ws, .tok "{", .opt .nl] ++ layNodes (d + 1) inner ++
        [.opt (.indent d), .tok "}", .opt (closeOpt pos)] := by
  simp [layNode, h]

/-! ### (E) the fill table -/

/-- **C11_plumb**: the complete table, by cases on the three Booleans. -/
theorem C11_plumb (o : Opts) :
    fills o =
      if o.xminify then ⟨"", "", "", ""⟩
      else if o.minify then ⟨"", "", "", "\n"⟩
      else if o.tabs then ⟨"\n", "\t", " ", "\n"⟩
      else ⟨"\n", String.ofList (List.replicate o.spaces ' '), " ", "\n"⟩ := by
  rcases o with ⟨m, x, t, n⟩
  cases m <;> cases x <;> cases t <;> simp [fills]

/-- `xminify` implies `minify` (and ignores `tabs`, `spaces`) -/
theorem C11_plumb_xminify (m m' t t' : Bool) (n n' : Nat) :
    fills ⟨m, true, t, n⟩ = fills ⟨m', true, t', n'⟩ ∧ fills ⟨m, true, t, n⟩ = ⟨"", "", "", ""⟩ := by
  simp [fills]

/-- minified fills ignore `tabs` and `spaces` -/
theorem C11_plumb_minify (x t t' : Bool) (n n' : Nat) :
    fills ⟨true, x, t, n⟩ = fills ⟨true, x, t', n'⟩ := by
  simp [fills]

/-- `tabs` overrides `spaces` -/
theorem C11_plumb_tabs (n n' : Nat) :
    fills ⟨false, false, true, n⟩ = fills ⟨false, false, true, n'⟩ ∧
    (fills ⟨false, false, true, n⟩).tab = "\t" := by
  simp [fills]

/-- `spaces` is used only as the number of spaces of the unit -/
theorem C11_plumb_spaces (n : Nat) :
    fills ⟨false, false, false, n⟩ = ⟨"\n", String.ofList (List.replicate n ' '), " ", "\n"⟩ := by
  simp [fills]

/-- in every case the fills are either the minified ones or the default ones with unit `unitOf o` -/
theorem C11_plumb_modes (o : Opts) :
    (o.minify = true ∨ o.xminify = true) ∧ fills o = ⟨"", "", "", if o.xminify then "" else "\n"⟩ ∨
    (o.minify = false ∧ o.xminify = false) ∧ fills o = ⟨"\n", unitOf o, " ", "\n"⟩ := by
  by_cases h : o.minify = true ∨ o.xminify = true
  · exact .inl ⟨h, fills_min o h⟩
  · rw [not_or, Bool.not_eq_true, Bool.not_eq_true] at h
    exact .inr ⟨h, fills_default o h.1 h.2⟩

/-! ### (F) the code-shaped printer is the layout description

  Hypothesis `Clean sheet` (decidable, `Lessm/Spec/PrintSpec.lean`): no condition on top-level rules
  and statements nor on the prelude of a top-level at-rule block; every node INSIDE an at-rule block
  (these go through `_indent`, `rstrip`, `strip`)
    * prints something (a rule has declarations, a block has inner nodes),
    * has only token texts without line break and with closed quotes (`tokOk`: `_indent` copies
      them and is outside a string literal afterwards),
    * has a text that does not start with whitespace, and — a statement — does not end with
      whitespace (`strip` of the minified body removes nothing but the final end-of-block).
  The counter-examples at the end drop the conditions one at a time. -/

/-- **C11_layout_nodes**: before the final `strip` the two texts are already equal. In the model a
    block nested `d` times is re-indented `d` times by one unit; the layout carries the level `d`. -/
theorem C11_layout_nodes (o : Opts) (sheet : List Node) (h : Clean sheet = true) :
    fmtNodes (fills o) sheet = realise (fills o) (laySheet sheet) := by
  rcases fills_cases o with ⟨E, hE, e⟩ | e <;> rw [e]
  · exact sheet_of_node _ (fun n => (mainM E hE).1 n 0) sheet h
  · exact sheet_of_node _ (fun n => (mainD _ (all_unitOf o (by decide) (by decide))).1 n .top) sheet h

/-- **C11_layout**: `Formatter.format` prints the layout of the sheet. -/
theorem C11_layout (o : Opts) (sheet : List Node) (h : Clean sheet = true) :
    format o sheet = strip (realise (fills o) (laySheet sheet)) := by
  unfold format
  rw [C11_layout_nodes o sheet h]

/-- `C11_layout` with the final `strip` carried out: it removes the optional items at the two ends of
    the layout, provided the first token does not begin and the last does not end with whitespace.
    (The examples below are evaluated through this: the kernel is slow on `String.toList` of a long
    text, which `strip` and the re-indentation of the model need and `realise` does not; `he` is one conjunction
    because `exSheet_edges`, `exSmall_edges` are evaluated as one fact per sheet.) -/
theorem format_eq_realise_trim (o : Opts) (sheet : List Node) (h : Clean sheet = true)
    (he : headTokOk (trimLay (laySheet sheet)) = true ∧ lastTokOk (trimLay (laySheet sheet)) = true) :
    format o sheet = realise (fills o) (trimLay (laySheet sheet)) := by
  rw [C11_layout o sheet h, strip_realise _ (wsOnly_realiseOpt_fills o) _ he.1 he.2]

/-- **C11_format_erase** (the property itself): for one (clean) sheet the outputs under any two option vectors are identical once
    whitespace is removed … -/
theorem C11_format_erase (o₁ o₂ : Opts) (sheet : List Node) (h : Clean sheet = true) :
    (format o₁ sheet).toList.filter notWs = (format o₂ sheet).toList.filter notWs := by
  rw [C11_layout o₁ sheet h, C11_layout o₂ sheet h, filter_strip, filter_strip]
  exact C11_erase_filter o₁ o₂ _

/-- … and each output is, up to the final `strip`, the token sequence of the sheet's layout — the
    same for all option vectors — interleaved with whitespace-only gaps. -/
theorem C11_format_interleaves (o : Opts) (sheet : List Node) (h : Clean sheet = true) :
    ∃ s, Interleaves (toks (laySheet sheet)) s ∧ format o sheet = strip s :=
  ⟨_, C11_erase o (laySheet sheet), C11_layout o sheet h⟩

/-- the `--xminify` output is the stripped token text -/
theorem C11_format_xminify (o : Opts) (hx : o.xminify = true) (sheet : List Node) (h : Clean sheet = true) :
    format o sheet = strip (eraseWs (laySheet sheet)) := by
  rw [C11_layout o sheet h, C11_erase_xminify o hx]

/-! ### examples -/

def exSheet : List Node :=
  [.stmt "@charset \"utf-8\";",
   .rule [[.text "a", .comb ">", .text "b"], [.text ".c d"]]
     [⟨"color", [.tok "red"], false⟩, ⟨"font", [.tok "a", .comma, .tok "'b;\n'", .sp, .tok "c"], true⟩],
   .rule [[.text "x"]] [],
   .nest "@media screen"
     [.rule [[.text ".a"], [.text ".b"]] [⟨"top", [.tok "0"], false⟩],
      .nest "@supports (x)" [.stmt "@x y;", .rule [[.text "p"]] [⟨"content", [.tok "\"{\""], false⟩]],
      .rule [[.text ".z"]] [⟨"left", [.tok "1px"], false⟩]]]

theorem exSheet_clean : Clean exSheet = true := by decide +kernel
example : Clean exSheet = true := exSheet_clean
theorem exSheet_edges :
    headTokOk (trimLay (laySheet exSheet)) = true ∧ lastTokOk (trimLay (laySheet exSheet)) = true := by
  decide +kernel

/-- a smaller sheet (kernel evaluation of the repeated string re-indentation is slow): an at-rule
    block nested in an at-rule block is re-indented twice by the model -/
def exSmall : List Node :=
  [.rule [[.text "a", .comb ">", .text "b"], [.text "c"]] [⟨"x", [.tok "1", .comma, .tok "2"], true⟩],
   .nest "@m" [.nest "@s" [.rule [[.text "p"], [.text "q"]] [⟨"y", [.tok "0"], false⟩]]]]

theorem exSmall_clean : Clean exSmall = true := by decide +kernel
example : Clean exSmall = true := exSmall_clean
theorem exSmall_edges :
    headTokOk (trimLay (laySheet exSmall)) = true ∧ lastTokOk (trimLay (laySheet exSmall)) = true := by
  decide +kernel
example : format ⟨false, false, false, 2⟩ exSmall =
    "a > b,\nc {\n  x: 1, 2 !important;\n}\n@m {\n  @s {\n    p,\n    q {\n      y: 0;\n    }\n  }\n}" := by
  rw [format_eq_realise_trim _ _ exSmall_clean exSmall_edges]; decide +kernel
example : format ⟨false, false, true, 2⟩ exSmall =
    "a > b,\nc {\n\tx: 1, 2 !important;\n}\n@m {\n\t@s {\n\t\tp,\n\t\tq {\n\t\t\ty: 0;\n\t\t}\n\t}\n}" := by
  rw [format_eq_realise_trim _ _ exSmall_clean exSmall_edges]; decide +kernel
/-- this one by running the model's `format` itself -/
example : format ⟨true, false, true, 2⟩ exSmall = "a>b,c{x:1,2 !important;}\n@m{@s{p,q{y:0;}}}" := by
  decide +kernel
example : format ⟨true, false, true, 2⟩ exSheet =
    "@charset \"utf-8\";\na>b,.c d{color:red;font:a,'b;\n' c !important;}\n@media screen{.a,.b{top:0;}\n@supports (x){@x y;\np{content:\"{\";}}\n.z{left:1px;}}" := by
  rw [format_eq_realise_trim _ _ exSheet_clean exSheet_edges]; decide +kernel
example : format ⟨false, true, false, 4⟩ exSheet =
    "@charset \"utf-8\";a>b,.c d{color:red;font:a,'b;\n' c !important;}@media screen{.a,.b{top:0;}@supports (x){@x y;p{content:\"{\";}}.z{left:1px;}}" := by
  rw [format_eq_realise_trim _ _ exSheet_clean exSheet_edges]; decide +kernel
example : format ⟨false, true, false, 4⟩ exSheet = strip (eraseWs (laySheet exSheet)) :=
  C11_format_xminify _ rfl exSheet exSheet_clean
example : (format ⟨false, false, false, 2⟩ exSheet).toList.filter notWs =
    (format ⟨true, false, true, 0⟩ exSheet).toList.filter notWs :=
  C11_format_erase _ _ exSheet exSheet_clean

/-! The hypothesis is needed: with each condition on the nodes inside an at-rule block dropped in
    turn the model and the layout description differ (these are behaviours of the formatter). -/

/-- an empty rule inside a block leaves its indentation behind in default mode -/
example : format ⟨false, false, false, 2⟩ [.nest "@media x" [.rule [[.text "a"]] []]] = "@media x {\n  }"
    ∧ strip (realise (fills ⟨false, false, false, 2⟩) (laySheet [.nest "@media x" [.rule [[.text "a"]] []]]))
      = "@media x {\n}" := by decide +kernel
/-- … and a trailing empty rule changes the end of the minified body -/
example : format ⟨true, false, false, 2⟩
      [.nest "@media x" [.rule [[.text "a"]] [⟨"b", [.tok "c"], false⟩], .rule [[.text "a"]] []]] = "@media x{a{b:c;}}"
    ∧ strip (realise (fills ⟨true, false, false, 2⟩)
      (laySheet [.nest "@media x" [.rule [[.text "a"]] [⟨"b", [.tok "c"], false⟩], .rule [[.text "a"]] []]]))
      = "@media x{a{b:c;}\n}" := by decide +kernel
/-- a line break inside a token is re-indented -/
example : format ⟨false, false, true, 2⟩ [.nest "@media x" [.stmt "a\nb;"]] = "@media x {\n\ta\n\tb;\n}"
    ∧ strip (realise (fills ⟨false, false, true, 2⟩) (laySheet [.nest "@media x" [.stmt "a\nb;"]]))
      = "@media x {\n\ta\nb;\n}" := by decide +kernel
/-- an unclosed quote switches re-indentation off for the rest of the block -/
example : format ⟨false, false, true, 2⟩ [.nest "@media x" [.stmt "a'", .stmt "b"]] = "@media x {\n\ta'\nb\n}"
    ∧ strip (realise (fills ⟨false, false, true, 2⟩) (laySheet [.nest "@media x" [.stmt "a'", .stmt "b"]]))
      = "@media x {\n\ta'\n\tb\n}" := by decide +kernel
/-- whitespace at the edge of a minified body is stripped -/
example : format ⟨true, false, true, 2⟩ [.nest "@media x" [.stmt "a; "]] = "@media x{a;}"
    ∧ strip (realise (fills ⟨true, false, true, 2⟩) (laySheet [.nest "@media x" [.stmt "a; "]]))
      = "@media x{a; }" := by decide +kernel

end Lessm.Print
