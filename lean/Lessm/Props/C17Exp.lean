/-
  C17 (exponent notation)  The repaired `split_unit` / `analyze_number` (`Lessm.Num.splitUnitE`, `analyzeE`):
  they cut the text without losing anything, coincide with `Lessm.Num.splitUnit` / `analyze` on every lexeme whose
  unit does not begin with an exponent, and read `mantissa e[-+]?digits unit` as mantissa * 10^(±digits).
  Core Lean only.
-/
import Lessm.Model.NumE
import Lessm.Lemmas.Basic

namespace Lessm.Num

theorem splitUnit_partition (s n u : List Char) (h : splitUnit s = some (n, u)) : n ++ u = s := by
  unfold splitUnit at h
  split at h
  next sign rest heq =>
    have hs : sign ++ rest = s := by split at heq <;> cases heq <;> rfl
    simp only at h
    split at h
    · cases h
    · cases h
      rw [List.append_assoc, List.takeWhile_append_dropWhile, hs]

theorem expPart_e_nil : expPart ['e'] = ([], ['e']) := rfl

/-- the optional sign `sg` of the exponent group is skipped, then the digits are read -/
theorem expPart_sign (sg t : List Char)
    (h : (sg = [] ∧ ∀ c, t.head? = some c → c ≠ '-' ∧ c ≠ '+') ∨ sg = ['-'] ∨ sg = ['+']) :
    expPart ('e' :: (sg ++ t)) =
      if (t.takeWhile isDigit).isEmpty then ([], 'e' :: (sg ++ t))
      else ('e' :: (sg ++ t.takeWhile isDigit), t.dropWhile isDigit) := by
  rcases h with ⟨rfl, h⟩ | rfl | rfl
  · unfold expPart
    simp only [List.nil_append]
    split
    · exact absurd rfl (h _ rfl).1
    · exact absurd rfl (h _ rfl).2
    · rfl
  · rfl
  · rfl

theorem expPart_not_e (c : Char) (r : List Char) (hc : c ≠ 'e') : expPart (c :: r) = ([], c :: r) := by
  unfold expPart
  split
  · next r' heq => exact absurd (List.cons.inj heq).1 hc
  · rfl

theorem expPart_nil : expPart [] = ([], []) := rfl

theorem expPart_partition (s : List Char) : (expPart s).1 ++ (expPart s).2 = s := by
  unfold expPart
  split
  · next r =>
    split
    next sg r2 heq =>
      have hr : sg ++ r2 = r := by split at heq <;> cases heq <;> rfl
      simp only
      split
      · rfl
      · simp only [← hr, List.cons_append, List.append_assoc, List.takeWhile_append_dropWhile]
  · rfl

theorem isDigit_ne_sign (c : Char) (h : isDigit c = true) : c ≠ '-' ∧ c ≠ '+' := by
  constructor <;> rintro rfl <;> exact absurd h (by decide)

theorem expPart_reads (ds u sg : List Char) (hsg : sg = [] ∨ sg = ['-'] ∨ sg = ['+'])
    (hds : ds ≠ []) (hd : ∀ c ∈ ds, isDigit c = true) (hu : ∀ c, u.head? = some c → isDigit c = false) :
    expPart ('e' :: (sg ++ (ds ++ u))) = ('e' :: (sg ++ ds), u) := by
  obtain ⟨ht, hdr⟩ := List.span_boundary hd hu
  obtain ⟨d, ds', rfl⟩ := List.exists_cons_of_ne_nil hds
  have hd0 := isDigit_ne_sign d (hd d List.mem_cons_self)
  rw [expPart_sign sg (d :: ds' ++ u) (hsg.imp_left fun h => ⟨h, fun _ e => Option.some.inj e ▸ hd0⟩), ht, hdr]
  rfl

theorem expVal_nil : expVal [] = 1 := rfl

/-- **C17_exp_partition**: the repaired splitter cuts the text into number and unit, losing and inventing nothing. -/
theorem C17_exp_partition (s n u : List Char) (h : splitUnitE s = some (n, u)) : n ++ u = s := by
  unfold splitUnitE at h
  split at h
  · cases h
  · next n0 u0 h0 =>
    simp only [Option.some.injEq, Prod.mk.injEq] at h
    obtain ⟨hn, hu⟩ := h
    subst hn hu
    rw [List.append_assoc, expPart_partition]
    exact splitUnit_partition s n0 u0 h0

/-- **C17_exp_conservative**: on every lexeme whose unit does not begin with an exponent the repaired functions are
    the ones of `Lessm.Num` that the evaluator models use. -/
theorem C17_exp_conservative (s n u : List Char) (h : splitUnit s = some (n, u)) (hne : (expPart u).1 = []) :
    splitUnitE s = some (n, u) ∧ analyzeE s = analyze s := by
  -- nothing is consumed: the two parts of `expPart u` make up `u`
  have he : expPart u = ([], u) := by
    have hp := expPart_partition u
    rw [hne, List.nil_append] at hp
    exact Prod.ext hne hp
  constructor
  · simp only [splitUnitE, h, he, List.append_nil]
  · simp only [analyzeE, analyze, h, he, parseDecE, expVal_nil, Rat.mul_one, Option.bind_eq_bind, Option.bind_some,
      Option.pure_def]
    cases parseDec n <;> rfl

/-- **C17_exp_nil**: no unit, no exponent. -/
theorem C17_exp_nil : (expPart []).1 = [] := rfl

/-- **C17_exp_unit_no_exp**: a unit that does not start with `e` (px, %, s, …) carries no exponent. -/
theorem C17_exp_unit_no_exp (c : Char) (r : List Char) (hc : c ≠ 'e') : (expPart (c :: r)).1 = [] := by
  rw [expPart_not_e c r hc]

/-- **C17_exp_e_letter**: `e` followed by anything but a sign or a digit is a unit, not an exponent. -/
theorem C17_exp_e_letter (c : Char) (r : List Char) (h1 : isDigit c = false) (h2 : c ≠ '-') (h3 : c ≠ '+') :
    (expPart ('e' :: c :: r)).1 = [] := by
  have h := expPart_sign [] (c :: r) (.inl ⟨rfl, fun _ e => Option.some.inj e ▸ ⟨h2, h3⟩⟩)
  rw [List.takeWhile_cons_of_neg (Bool.eq_false_iff.mp h1)] at h
  exact congrArg Prod.fst h

/-- **C17_exp_em**: `em…` is a unit. -/
theorem C17_exp_em (r : List Char) : (expPart ('e' :: 'm' :: r)).1 = [] :=
  C17_exp_e_letter 'm' r (by decide) (by decide) (by decide)

/-- **C17_exp_reads**: a mantissa followed by an exponent and a unit is split after the exponent. -/
theorem C17_exp_reads (n ds u : List Char) (sg : List Char) (hsg : sg = [] ∨ sg = ['-'] ∨ sg = ['+'])
    (hn : splitUnit (n ++ 'e' :: sg ++ ds ++ u) = some (n, 'e' :: sg ++ ds ++ u))
    (hds : ds ≠ []) (hd : ∀ c ∈ ds, isDigit c = true) (hu : ∀ c, u.head? = some c → isDigit c = false) :
    splitUnitE (n ++ 'e' :: sg ++ ds ++ u) = some (n ++ 'e' :: sg ++ ds, u) := by
  have he := expPart_reads ds u sg hsg hds hd hu
  simp only [List.append_assoc, List.cons_append] at hn ⊢
  simp only [splitUnitE, hn, he]

/-- **C17_exp_value_neg**: `e-ds` divides by the power of ten. -/
theorem C17_exp_value_neg (n ds : List Char) (q : Rat) (hq : parseDec n = some q) :
    parseDecE n ('e' :: '-' :: ds) = some (q / ((10 ^ digitsVal ds : Nat) : Rat)) := by
  simp only [parseDecE, hq, Option.map_some, expVal, Rat.div_def, Rat.one_mul]

/-- **C17_exp_value_pos**: `e+ds` multiplies by the power of ten. -/
theorem C17_exp_value_pos (n ds : List Char) (q : Rat) (hq : parseDec n = some q) :
    parseDecE n ('e' :: '+' :: ds) = some (q * ((10 ^ digitsVal ds : Nat) : Rat)) := by
  simp only [parseDecE, hq, Option.map_some, expVal]

/-- **C17_exp_value_nosign**: `e` followed directly by digits multiplies by the power of ten. -/
theorem C17_exp_value_nosign (n : List Char) (d : Char) (ds : List Char) (q : Rat) (hq : parseDec n = some q)
    (hd : isDigit d = true) :
    parseDecE n ('e' :: d :: ds) = some (q * ((10 ^ digitsVal (d :: ds) : Nat) : Rat)) := by
  obtain ⟨h2, h3⟩ := isDigit_ne_sign d hd
  simp only [parseDecE, hq, Option.map_some]
  unfold expVal
  split
  · next ds' heq => simp only [List.cons.injEq, true_and] at heq; exact absurd heq.1 h2
  · next ds' heq => simp only [List.cons.injEq, true_and] at heq; exact absurd heq.1 h3
  · next ds' heq => simp only [List.cons.injEq, true_and] at heq; rw [← heq]
  · next hno => exact absurd rfl (hno (d :: ds))

/-! Non-vacuity.  The two `Rat` values are checked by the kernel (`decide +kernel`): no `native_decide`, no extra axiom. -/

example : splitUnitE "1e-05em".toList = some ("1e-05".toList, "em".toList) := by decide +kernel
example : splitUnitE "1em".toList = some ("1".toList, "em".toList) := by decide +kernel
example : splitUnitE "-.5e".toList = some ("-.5".toList, "e".toList) := by decide +kernel
example : splitUnitE "3e2em".toList = some ("3e2".toList, "em".toList) := by decide +kernel
example : splitUnitE "2ex".toList = some ("2".toList, "ex".toList) := by decide +kernel
example : (analyzeE "1e-05em".toList).map (fun p => (ratStr p.1, p.2)) = some ("1/100000", "em".toList) := by decide +kernel
example : (analyzeE "-5e-05px".toList).map (fun p => (ratStr p.1, p.2)) = some ("-1/20000", "px".toList) := by decide +kernel

end Lessm.Num
